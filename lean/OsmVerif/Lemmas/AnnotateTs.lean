import OsmVerif.Lemmas.Annotate
/-! The timestamp regime of the annotation core (no version carries a usable commit time): a characterisation of
`FindVisible`'s grouping heuristic strong enough for time travel. -/
namespace OsmVerif.Model.Annotate

def tsOf (c : Child) : Int := c.ts

def TsSorted (cl : List Child) : Prop := cl.Pairwise (fun a b => tsOf a ≤ tsOf b)

def lastTs (cl : List Child) (t : Int) : Option Child := (cl.filter (fun c => tsOf c ≤ t)).getLast?

def countTs (cl : List Child) (t : Int) : Nat := (cl.filter (fun c => tsOf c ≤ t)).length

def TsRegime (cl : List Child) : Prop := ∀ c ∈ cl, beforeStart c.committed = true

/-- what `FindVisible`'s heuristic guarantees of a version `r` it picks from inside the window or before it
    (`start` is the parent's time less the threshold `eps`, `cid` the parent's changeset): `r` is visible, stamped no
    later than the parent's time plus the threshold, and no later than the parent's time unless of its changeset -/
def FvGood (cid start eps : Int) (r : Child) : Prop :=
  r.visible = true ∧ r.ts - start ≤ 2 * eps ∧ (r.ts - start ≤ eps ∨ r.changeset = cid)

theorem fvLoop_cons_before (cid atT : Int) {start eps : Int} (heps : 0 ≤ eps) {c : Child}
    (hc : beforeStart c.committed = true) (h : c.ts < start) (rest : List Child) (diff : Int) (nearest : Option Child) :
    fvLoop cid atT start eps (c :: rest) diff nearest =
      fvLoop cid atT start eps rest diff (if c.visible then some c else none) := by
  rw [fvLoop]
  simp only [hc, if_true]
  rw [if_neg (show ¬ c.ts - start > 2 * eps by omega), if_pos (Int.sub_neg_of_lt h)]

/-- one step of `FindVisible`'s loop in the timestamp regime: it stops (at a version stamped after the window), or
    goes on with a candidate `n'` -/
theorem fvLoop_cons_ts (cid atT start eps : Int) (heps : 0 ≤ eps) {c : Child} (hc : beforeStart c.committed = true)
    (rest : List Child) (diff : Int) (nearest : Option Child) :
    fvLoop cid atT start eps (c :: rest) diff nearest = nearest ∨
    ∃ diff' n', fvLoop cid atT start eps (c :: rest) diff nearest = fvLoop cid atT start eps rest diff' n' ∧
      (n' = nearest ∨ n' = none ∨ (n' = some c ∧ FvGood cid start eps c)) := by
  rw [fvLoop]
  simp only [hc, if_true]
  by_cases h1 : c.ts - start > 2 * eps
  · exact Or.inl (if_pos h1)
  · right
    have hle : c.ts - start ≤ 2 * eps := Int.not_lt.mp h1
    rw [if_neg h1]
    by_cases h2 : c.ts - start < 0
    · -- a visible version stamped before the window is good
      rw [if_pos h2]
      refine ⟨_, _, rfl, ?_⟩
      by_cases hv : c.visible = true
      · rw [if_pos hv]
        exact Or.inr (Or.inr ⟨rfl, hv, hle, Or.inl (Int.le_trans (Int.le_of_lt h2) heps)⟩)
      · rw [if_neg hv]
        exact Or.inr (Or.inl rfl)
    · rw [if_neg h2]
      by_cases h3 : diff < 0 ∨ absI (c.ts - start - eps) ≤ diff
      · rw [if_pos h3]
        by_cases hv : c.visible = true
        · rw [if_pos hv]
          by_cases h4 : c.ts - start ≤ eps
          · rw [if_pos h4]
            exact ⟨_, _, rfl, Or.inr (Or.inr ⟨rfl, hv, hle, Or.inl h4⟩)⟩
          · rw [if_neg h4]
            by_cases h5 : c.changeset = cid
            · rw [if_pos h5]
              exact ⟨_, _, rfl, Or.inr (Or.inr ⟨rfl, hv, hle, Or.inr h5⟩)⟩
            · -- passed over; only an invisible version resets the candidate
              rw [if_neg h5, if_neg (fun h => absurd hv h.2.1)]
              exact ⟨_, _, rfl, Or.inl rfl⟩
        · rw [if_neg hv]
          refine ⟨_, _, rfl, ?_⟩
          split
          · exact Or.inr (Or.inl rfl)
          · exact Or.inl rfl
      · rw [if_neg h3]
        exact ⟨_, _, rfl, Or.inl rfl⟩

theorem fvLoop_ts_sound (cid atT start eps : Int) (heps : 0 ≤ eps) :
    ∀ (rest : List Child) (diff : Int) (nearest : Option Child) (r : Child),
      TsRegime rest → fvLoop cid atT start eps rest diff nearest = some r →
      nearest = some r ∨ (r ∈ rest ∧ FvGood cid start eps r) := by
  intro rest
  induction rest with
  | nil =>
    intro diff nearest r _ h
    rw [fvLoop] at h
    exact Or.inl h
  | cons c rest ih =>
    intro diff nearest r hreg h
    rcases fvLoop_cons_ts cid atT start eps heps (hreg c List.mem_cons_self) rest diff nearest with hstop | ⟨diff', n', heq, hn'⟩
    · exact Or.inl (hstop ▸ h)
    · rw [heq] at h
      rcases ih diff' n' r (fun d hd => hreg d (List.mem_cons_of_mem c hd)) h with e | ⟨hm, hg⟩
      · subst e
        rcases hn' with e | e | ⟨e, hg⟩
        · exact Or.inl e.symm
        · cases e
        · cases e
          exact Or.inr ⟨List.mem_cons_self, hg⟩
      · exact Or.inr ⟨List.mem_cons_of_mem _ hm, hg⟩

theorem findVisible_ts_sound (cl : List Child) (cid atT eps : Int) (heps : 0 ≤ eps) (hr : TsRegime cl) (r : Child)
    (h : findVisible cl cid atT eps = some r) :
    r ∈ cl ∧ r.visible = true ∧ r.ts ≤ atT + eps ∧ (r.ts ≤ atT ∨ r.changeset = cid) := by
  unfold findVisible at h
  rcases fvLoop_ts_sound cid atT (atT - eps) eps heps cl (-1) none r hr h with h | ⟨hm, hv, h1, h2⟩
  · cases h
  · exact ⟨hm, hv, by omega, h2.imp (fun h => by omega) id⟩

/-- when the version `FindVisible`'s loop returns is stamped before the window (`ts < start`), it is the last
    such version of the list, or the candidate the loop started with if the list has no such version -/
theorem fvLoop_ts_before (cid atT start eps : Int) (heps : 0 ≤ eps) :
    ∀ (rest : List Child) (diff : Int) (nearest : Option Child) (r : Child),
      TsRegime rest → TsSorted rest → fvLoop cid atT start eps rest diff nearest = some r → r.ts < start →
      ((rest.filter (fun c => tsOf c < start)).getLast?).or nearest = some r := by
  intro rest
  induction rest with
  | nil =>
    intro diff nearest r _ _ h _
    rw [fvLoop] at h
    exact h
  | cons c rest ih =>
    intro diff nearest r hreg hs h hr
    have hs' := List.pairwise_cons.mp hs
    by_cases h2 : c.ts < start
    · -- `c` is the version returned unless a later one is
      rw [fvLoop_cons_before cid atT heps (hreg c List.mem_cons_self) h2] at h
      have ih' := ih _ _ r (fun d hd => hreg d (List.mem_cons_of_mem c hd)) hs'.2 h hr
      rw [List.filter_cons_of_pos (p := fun c => decide (tsOf c < start)) (decide_eq_true h2), List.getLast?_cons]
      cases hl : (rest.filter (fun c => decide (tsOf c < start))).getLast? with
      | some y => rw [hl] at ih'; exact ih'
      | none =>
        rw [hl] at ih'
        split at ih'
        · exact ih'
        · cases ih'
    · -- from a version stamped inside or after the window on, none is stamped before it, so `r` is not one of them
      have hlate : ∀ x ∈ c :: rest, ¬ decide (tsOf x < start) = true := by
        intro x hx hlt
        have hlt := of_decide_eq_true hlt
        unfold tsOf at hlt
        rcases List.mem_cons.mp hx with rfl | hx
        · exact h2 hlt
        · have : c.ts ≤ x.ts := hs'.1 x hx
          omega
      rw [List.filter_eq_nil_iff.mpr hlate]
      rcases fvLoop_ts_sound cid atT start eps heps (c :: rest) diff nearest r hreg h with e | ⟨hm, _⟩
      · exact e
      · exact absurd (decide_eq_true hr) (hlate r hm)

theorem findVisible_ts_before (cl : List Child) (cid atT eps : Int) (heps : 0 ≤ eps) (hr : TsRegime cl) (hs : TsSorted cl)
    (r : Child) (h : findVisible cl cid atT eps = some r) (hr' : r.ts < atT - eps) :
    (cl.filter (fun c => tsOf c < atT - eps)).getLast? = some r := by
  have := fvLoop_ts_before cid atT (atT - eps) eps heps cl (-1) none r hr hs h hr'
  rwa [Option.or_none] at this

theorem effTime_ts {cl : List Child} (hr : TsRegime cl) (c : Child) (hc : c ∈ cl) : effTime c = tsOf c := by
  simp [effTime, updateTimestamp, tsOf, hr c hc]

end OsmVerif.Model.Annotate
