import OsmVerif.Model.Annotate
import OsmVerif.Lemmas.List
/-! Lemmas about the annotation model. The code places a child version in time by one rule (`timeThreshold`,
`updateTimestamp`): at its commit time when it has a usable one, at its time stamp otherwise (`effTime`). What the
two regimes share is stated once, for a history `Placed` by a key `τ` that agrees with that rule: sorted by `τ`
and indexed by position. The commit-time regime is `τ = commitOf`; the timestamp regime (`Lemmas.AnnotateTs`) is
`τ = tsOf`. -/
namespace OsmVerif.Model.Annotate

def commitOf (c : Child) : Int := c.committed.getD 0

def CommitRegime (cl : List Child) : Prop :=
  ∀ c ∈ cl, ∃ t, c.committed = some t ∧ commitInfoStart ≤ t

def CommitSorted (cl : List Child) : Prop := cl.Pairwise (fun a b => commitOf a ≤ commitOf b)

def lastAt (cl : List Child) (t : Int) : Option Child := (cl.filter (fun c => commitOf c ≤ t)).getLast?

/-- the ground truth in the commit-time regime: the child version that was current at `t`, which is the last one
    committed at or before `t` unless that is a deletion -/
def currentAt (cl : List Child) (t : Int) : Option Child :=
  match lastAt cl t with
  | some c => if c.visible then some c else none
  | none => none

theorem beforeStart_some {t : Int} (ht : commitInfoStart ≤ t) : beforeStart (some t) = false :=
  decide_eq_false (Int.not_lt.mpr ht)

theorem currentAt_eq_filter (cl : List Child) (t : Int) : currentAt cl t = (lastAt cl t).filter (·.visible) := by
  unfold currentAt
  cases lastAt cl t <;> rfl

theorem lastAt_of_currentAt {cl : List Child} {t : Int} {c : Child} (h : currentAt cl t = some c) :
    lastAt cl t = some c ∧ c.visible = true :=
  Option.filter_eq_some_iff.mp (currentAt_eq_filter cl t ▸ h)

/-- at a version with a usable commit time `FindVisible`'s loop looks at that time only -/
theorem fvLoop_cons_commit (cid atT start eps : Int) {c : Child} {t : Int} (hc : c.committed = some t)
    (ht : commitInfoStart ≤ t) (rest : List Child) (diff : Int) (nearest : Option Child) :
    fvLoop cid atT start eps (c :: rest) diff nearest =
      if decide (commitOf c ≤ atT) = true then fvLoop cid atT start eps rest diff (if c.visible then some c else none)
      else nearest := by
  rw [fvLoop, if_neg (ne_true_of_eq_false (hc ▸ beforeStart_some ht))]
  show (if commitOf c > atT then _ else _) = _
  by_cases hle : commitOf c ≤ atT
  · rw [if_neg (Int.not_lt.mpr hle), if_pos (decide_eq_true hle)]
  · rw [if_pos (Int.not_le.mp hle), if_neg (mt of_decide_eq_true hle)]

theorem findVisible_commit (cl : List Child) (cid atT eps : Int) (hr : CommitRegime cl) (hs : CommitSorted cl) :
    findVisible cl cid atT eps = currentAt cl atT := by
  have h := List.loop_eq_getLast?_filter (f := fun l s => fvLoop cid atT (atT - eps) eps l (-1) s)
    (fun s => by rw [fvLoop])
    (fun c hc rest s => by
      obtain ⟨t, hct, ht⟩ := hr c hc
      exact fvLoop_cons_commit cid atT (atT - eps) eps hct ht rest (-1) s)
    (List.pairwise_le_closed hs atT) none
  unfold findVisible currentAt lastAt
  rw [h]
  cases (cl.filter fun c => decide (commitOf c ≤ atT)).getLast? <;> rfl

/-- `CommitRegime` in a form that evaluation checks on a concrete history -/
theorem commitRegime_of {cl : List Child} (h : ∀ c ∈ cl, beforeStart c.committed = false) : CommitRegime cl := by
  intro c hc
  have := h c hc
  cases hcm : c.committed with
  | none => simp [beforeStart, hcm] at this
  | some t => exact ⟨t, rfl, by simpa [beforeStart, hcm] using this⟩

/-- `VersionIndex` is the position in the version-sorted child list (datasource.go) -/
def WellIndexed (cl : List Child) : Prop := ∀ (k : Nat) (c : Child), cl[k]? = some c → c.vindex = k

def countAt (cl : List Child) (t : Int) : Nat := (cl.filter (fun c => commitOf c ≤ t)).length

def countBefore (cl : List Child) (t : Int) : Nat := (cl.filter (fun c => commitOf c < t)).length

theorem countBefore_le_countAt (cl : List Child) (t : Int) : countBefore cl t ≤ countAt cl t :=
  List.length_filter_mono fun _ _ h => decide_eq_true (Int.le_of_lt (of_decide_eq_true h))

/-- `WellIndexed` in a form that evaluation checks on a concrete history -/
theorem wellIndexed_of_map {cl : List Child} (h : cl.map (·.vindex) = List.range cl.length) : WellIndexed cl := by
  intro k c hk
  have hlt : k < cl.length := (List.getElem?_eq_some_iff.mp hk).1
  have := congrArg (fun l : List Nat => l[k]?) h
  simpa [hk, List.getElem?_range hlt] using this

/-- the time at which annotate/internal/core places a child version: `timeThreshold(c, 0)` where it decides which
    versions fall before a parent version, `updateTimestamp` (annotate/shared) where it stamps the update made
    from the version -/
def effTime (c : Child) : Int := updateTimestamp c.ts c.committed

theorem timeThreshold_zero (c : Child) : timeThreshold c 0 = effTime c := by
  unfold timeThreshold effTime updateTimestamp
  split
  · exact Int.add_zero _
  · rfl

/-- a child history as the code sees it below `FindVisible`, whatever the regime. A history that crosses
    `osm.CommitInfoStart` is placed by `τ = effTime` itself. -/
structure Placed (τ : Child → Int) (cl : List Child) : Prop where
  time : ∀ c ∈ cl, effTime c = τ c
  sorted : cl.Pairwise (fun a b => τ a ≤ τ b)
  indexed : WellIndexed cl

theorem WellIndexed.getElem?_vindex {cl : List Child} (hi : WellIndexed cl) {c : Child} (hc : c ∈ cl) :
    cl[c.vindex]? = some c := by
  obtain ⟨i, h⟩ := List.mem_iff_getElem?.mp hc
  rw [hi i c h]
  exact h

theorem WellIndexed.vindex_getLast?_filter {cl : List Child} (hi : WellIndexed cl) {p : Child → Bool}
    (hp : cl.Pairwise (fun a b => p b = true → p a = true)) {c : Child} (h : (cl.filter p).getLast? = some c) :
    c.vindex + 1 = (cl.filter p).length := by
  rw [List.getLast?_filter_of_pairwise hp] at h
  split at h
  · cases h
  · next h0 => rw [hi _ _ h, Nat.sub_add_cancel (Nat.pos_of_ne_zero h0)]

theorem nextVersionIndex_none {cl : List Child} (hi : WellIndexed cl) (cur : Option Child) (o : Options) :
    nextVersionIndex cur cl none o = cl.length := by
  unfold nextVersionIndex
  cases hl : cl.getLast? with
  | none => rw [List.getLast?_eq_none_iff.mp hl]; rfl
  | some l =>
    rw [List.getLast?_eq_getElem?] at hl
    have hlt := (List.getElem?_eq_some_iff.mp hl).1
    show l.vindex + 1 = cl.length
    rw [hi _ _ hl]
    exact Nat.sub_add_cancel (Nat.lt_of_le_of_lt (Nat.zero_le _) hlt)

theorem versionBefore_go_cons {τ : Child → Int} {c : Child} (hc : effTime c = τ c) (e : Int) (rest : List Child)
    (latest : Option Child) :
    versionBefore.go e (c :: rest) latest = if decide (τ c < e) = true then versionBefore.go e rest (some c) else latest := by
  rw [versionBefore.go, timeThreshold_zero, hc]
  by_cases hlt : τ c < e
  · rw [if_neg (not_not_intro hlt), if_pos (decide_eq_true hlt)]
  · rw [if_pos hlt, if_neg (mt of_decide_eq_true hlt)]

namespace Placed
variable {τ : Child → Int} {cl : List Child} (pl : Placed τ cl)
include pl

theorem le_iff_lt_count {k : Nat} {c : Child} (hk : cl[k]? = some c) (t : Int) :
    τ c ≤ t ↔ k < (cl.filter (fun c => τ c ≤ t)).length :=
  decide_eq_true_iff.symm.trans (List.lt_length_filter_iff_of_pairwise (List.pairwise_le_closed pl.sorted t) hk)

theorem versionBefore_eq (e : Int) : versionBefore cl e = (cl.filter (fun c => τ c < e)).getLast? := by
  unfold versionBefore
  rw [List.loop_eq_getLast?_filter (f := versionBefore.go e) (fun s => by rw [versionBefore.go])
    (fun c hc rest s => versionBefore_go_cons (pl.time c hc) e rest s) (List.pairwise_lt_closed pl.sorted e) none]
  cases (cl.filter fun c => decide (τ c < e)).getLast? <;> rfl

theorem versionBefore_index (e : Int) :
    (match versionBefore cl e with
      | some n => n.vindex + 1
      | none => 0) = (cl.filter (fun c => τ c < e)).length := by
  rw [pl.versionBefore_eq e]
  cases h : (cl.filter (fun c => decide (τ c < e))).getLast? with
  | none => rw [List.getLast?_eq_none_iff.mp h]; rfl
  | some n => exact pl.indexed.vindex_getLast?_filter (List.pairwise_lt_closed pl.sorted e) h

end Placed

theorem effTime_commit {cl : List Child} (hr : CommitRegime cl) (c : Child) (hc : c ∈ cl) : effTime c = commitOf c := by
  obtain ⟨t, h, ht⟩ := hr c hc
  simp [effTime, updateTimestamp, commitOf, h, beforeStart_some ht]

def versionRange (start stop : Nat) : List Nat := (List.range stop).filter (fun k => decide (start ≤ k))

theorem versionRange_succ (start stop : Nat) :
    versionRange start (stop + 1) = versionRange start stop ++ (if start ≤ stop then [stop] else []) := by
  unfold versionRange
  rw [List.range_succ, List.filter_append]
  by_cases h : start ≤ stop <;> simp [h]

theorem mem_versionRange (start stop k : Nat) : k ∈ versionRange start stop ↔ start ≤ k ∧ k < stop := by
  unfold versionRange
  rw [List.mem_filter, List.mem_range, decide_eq_true_iff]
  exact And.comm

def versionUpdates (cl : List Child) (idxs : List Nat) (k : Nat) : List Update :=
  match cl[k]? with
  | some c => idxs.map (fun i => c.update i)
  | none => []

/-- position `k` holds no invisible version -/
def visibleAt (cl : List Child) (k : Nat) : Bool := cl[k]?.all (·.visible)

theorem rangeUpdates_succ (o : Options) (pidx fid : Nat) (cl : List Child) (idxs : List Nat) {start stop : Nat}
    (h : start ≤ stop) :
    rangeUpdates o pidx fid cl idxs start (stop + 1) =
      (rangeUpdates o pidx fid cl idxs start stop).bind fun pre =>
        if visibleAt cl stop then .ok (pre ++ versionUpdates cl idxs stop)
        else if o.ignoreInconsistency then .ok pre
        else .error (.deletedBetween pidx fid) := by
  rw [rangeUpdates, if_neg (Nat.not_lt.mpr h)]
  refine congrArg _ (funext fun pre => ?_)
  unfold visibleAt versionUpdates
  cases cl[stop]? with
  | none => exact congrArg _ (List.append_nil pre).symm
  | some c => rfl

/-- the update loop of `Compute` in closed form -/
theorem rangeUpdates_eq (o : Options) (pidx fid : Nat) (cl : List Child) (idxs : List Nat) : ∀ stop start,
    rangeUpdates o pidx fid cl idxs start stop =
      if o.ignoreInconsistency || (versionRange start stop).all (visibleAt cl) then
        .ok (((versionRange start stop).filter (visibleAt cl)).flatMap (versionUpdates cl idxs))
      else .error (.deletedBetween pidx fid) := by
  intro stop
  induction stop with
  | zero => intro start; simp [rangeUpdates, versionRange]
  | succ stop ih =>
    intro start
    by_cases hle : start ≤ stop
    · rw [rangeUpdates_succ o pidx fid cl idxs hle, ih start, versionRange_succ, if_pos hle, List.all_append,
        List.filter_append, List.flatMap_append]
      simp only [List.all_cons, List.all_nil, Bool.and_true, List.filter_cons, List.filter_nil]
      by_cases hpre : (o.ignoreInconsistency || (versionRange start stop).all (visibleAt cl)) = true
      · -- the versions before `stop` gave their updates
        rw [if_pos hpre]
        cases visibleAt cl stop <;> simp [Except.bind, hpre]
      · -- the loop has failed before `stop`
        rw [if_neg hpre]
        simp only [Bool.or_eq_true, not_or, Bool.not_eq_true] at hpre
        simp [hpre.1, hpre.2, Except.bind]
    · have : versionRange start (stop + 1) = [] := by
        apply List.eq_nil_iff_forall_not_mem.mpr
        intro k hk; have := (mem_versionRange _ _ _).mp hk; omega
      rw [rangeUpdates, if_pos (Nat.not_le.mp hle), this]
      simp

theorem rangeUpdates_ok (o : Options) (pidx fid : Nat) (cl : List Child) (idxs : List Nat) (stop start : Nat)
    (hv : ∀ k c, start ≤ k → k < stop → cl[k]? = some c → c.visible = true) :
    rangeUpdates o pidx fid cl idxs start stop = .ok ((versionRange start stop).flatMap (versionUpdates cl idxs)) := by
  have hvis : ∀ k ∈ versionRange start stop, visibleAt cl k = true := by
    intro k hk
    have hk' := (mem_versionRange _ _ _).mp hk
    unfold visibleAt
    cases hc : cl[k]? with
    | none => rfl
    | some c => exact hv k c hk'.1 hk'.2 hc
  rw [rangeUpdates_eq, List.all_eq_true.mpr hvis, Bool.or_true, if_pos rfl, List.filter_eq_self.mpr hvis]

theorem versionRange_filter_lt (start : Nat) {m stop : Nat} (h : m ≤ stop) :
    (versionRange start stop).filter (fun k => decide (k < m)) = versionRange start m := by
  obtain ⟨d, rfl⟩ := Nat.exists_eq_add_of_le h
  clear h
  induction d with
  | zero => exact List.filter_eq_self.mpr fun k hk => decide_eq_true ((mem_versionRange _ _ _).mp hk).2
  | succ d ih =>
    have hge : ¬ decide (m + d < m) = true := mt of_decide_eq_true (by omega)
    rw [← Nat.add_assoc, versionRange_succ, List.filter_append, ih]
    split
    · rw [List.filter_cons_of_neg (p := fun k => decide (k < m)) hge, List.filter_nil, List.append_nil]
    · rw [List.filter_nil, List.append_nil]

/-- of the updates a range of versions emits, those addressed to slot `j` and stamped at or before `t` are the
    updates to `j` of the versions of the range placed at or before `t` -/
theorem Placed.updates_upTo {τ : Child → Int} {cl : List Child} (pl : Placed τ cl) (idxs : List Nat) (hnd : idxs.Nodup)
    (j : Nat) (hj : j ∈ idxs) (t : Int) (start stop : Nat)
    (hstop : (cl.filter (fun c => τ c ≤ t)).length ≤ stop) :
    ((versionRange start stop).flatMap (versionUpdates cl idxs)).filter (fun u => decide (u.index = j ∧ u.ts ≤ t)) =
      (versionRange start (cl.filter (fun c => τ c ≤ t)).length).filterMap (fun k => cl[k]?.map (fun c => c.update j)) := by
  -- per version: the update addressed to j passes iff k is placed at or before t
  have hver : ∀ k, (versionUpdates cl idxs k).filter (fun u => decide (u.index = j ∧ u.ts ≤ t)) =
      (if decide (k < (cl.filter (fun c => τ c ≤ t)).length) = true then cl[k]?.map (fun c => c.update j) else none).toList := by
    intro k
    unfold versionUpdates
    cases hk : cl[k]? with
    | none => simp
    | some c =>
      have hts : ∀ i, (c.update i).ts = τ c := fun i => pl.time c (List.mem_of_getElem? hk)
      have hiff := pl.le_iff_lt_count hk t
      by_cases hlt : k < (cl.filter (fun c => τ c ≤ t)).length
      · have hle : τ c ≤ t := hiff.mpr hlt
        -- among idxs (nodup) exactly j passes
        have hfun : ((fun u => decide (u.index = j ∧ u.ts ≤ t)) ∘ fun i => c.update i) = fun i => decide (i = j) := by
          funext i
          show decide (i = j ∧ (c.update i).ts ≤ t) = decide (i = j)
          simp [hts i, hle]
        rw [if_pos (decide_eq_true hlt), List.filter_map, hfun, List.filter_eq, hnd.count, if_pos hj]
        rfl
      · rw [if_neg (by simpa using hlt)]
        show (idxs.map fun i => c.update i).filter _ = []
        rw [List.filter_eq_nil_iff]
        intro u hu
        obtain ⟨i, _, rfl⟩ := List.mem_map.mp hu
        have hgt : ¬ τ c ≤ t := fun h => hlt (hiff.mp h)
        simp [hts i, hgt]
  rw [List.filter_flatMap, ← versionRange_filter_lt start hstop, List.filterMap_filter]
  simp only [hver]
  exact List.flatMap_toList _ _

end OsmVerif.Model.Annotate
