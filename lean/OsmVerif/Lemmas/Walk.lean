import OsmVerif.Model.Walk
/-! What a call of the child-first walk may add to the emitted list. The member loop of `walk` (up to the
first member on the path) and the producer loop over the requested ids are both a fold of calls; what is shown of
calls is shown of such folds once. -/
namespace OsmVerif.Model.Walk

theorem loopMs_eq (w) (path : List Nat) : ∀ ms out, loopMs w path ms out =
    ((ms.takeWhile (· ∉ path)).foldl (fun o m => w o m (path ++ [m])) out, ms.any (· ∈ path)) := by
  intro ms
  induction ms with
  | nil => intro out; rfl
  | cons m ms ih =>
    intro out
    by_cases h : m ∈ path
    · simp [loopMs, h]
    · simp [loopMs, h, ih]

theorem loopMs_of_not_mem (w) (path ms out : List Nat) (h : ∀ m ∈ ms, m ∉ path) :
    loopMs w path ms out = (ms.foldl (fun o m => w o m (path ++ [m])) out, false) := by
  induction ms generalizing out with
  | nil => rfl
  | cons m ms ih =>
    rw [loopMs, if_neg (h m (List.mem_cons_self ..)), List.foldl_cons]
    exact ih _ (fun m' hm' => h m' (List.mem_cons_of_mem _ hm'))

variable {H : Hist} {f x : Nat} {out p ms : List Nat} {P : List Nat → Prop}

theorem walk_of_mem (h : x ∈ out) : walk H f out x p = out := by
  cases f with
  | zero => rfl
  | succ f => rw [walk, if_pos h]

theorem walk_of_none (h : H x = none) : walk H f out x p = out := by
  cases f with
  | zero => rfl
  | succ f => rw [walk, h, ite_self]

theorem walk_of_some (hx : x ∉ out) (hms : H x = some ms) : walk H (f + 1) out x p =
      (ms.takeWhile (· ∉ p)).foldl (fun o m => walk H f o m (p ++ [m])) out ++ if ms.any (· ∈ p) then [] else [x] := by
  rw [walk, if_neg hx, hms]
  simp only [loopMs_eq]
  split
  · rw [List.append_nil]
  · rfl

theorem walk_of_some_not_cut (hx : x ∉ out) (hms : H x = some ms) (hp : ∀ m ∈ ms, m ∉ p) :
    walk H (f + 1) out x p = ms.foldl (fun o m => walk H f o m (p ++ [m])) out ++ [x] := by
  rw [walk, if_neg hx, hms]
  simp only [loopMs_of_not_mem _ _ _ _ hp]
  rfl

/-- what a call may append (`new`) to the emitted list `out`: ids not emitted before, none twice, each with a
    history whose member list satisfies `P` (for a call of `walk`: no member is on the call's path) -/
structure Good (H : Hist) (out new : List Nat) (P : List Nat → Prop) : Prop where
  fresh : ∀ y ∈ new, y ∉ out
  nodup : new.Nodup
  history : ∀ y ∈ new, ∃ ms, H y = some ms ∧ P ms

def WSpec (H : Hist) (w : List Nat → Nat → List Nat → List Nat) : Prop :=
  ∀ out x p, ∃ new, w out x p = out ++ new ∧ Good H out new (fun ms => ∀ m ∈ ms, m ∉ p)

theorem good_nil (H : Hist) (out : List Nat) (P : List Nat → Prop) : Good H out [] P :=
  ⟨List.forall_mem_nil _, List.nodup_nil, List.forall_mem_nil _⟩

theorem adds_nothing {r : List Nat} (h : r = out) : ∃ new, r = out ++ new ∧ Good H out new P :=
  ⟨[], by rw [h, List.append_nil], good_nil H out P⟩

theorem Good.singleton (hx : x ∉ out) (hms : H x = some ms) (hP : P ms) : Good H out [x] P :=
  ⟨List.forall_mem_singleton.mpr hx, List.pairwise_singleton _ x, List.forall_mem_singleton.mpr ⟨ms, hms, hP⟩⟩

theorem Good.mono {new : List Nat} {Q : List Nat → Prop} (h : Good H out new P) (hPQ : ∀ ms, P ms → Q ms) :
    Good H out new Q := by
  refine ⟨h.fresh, h.nodup, ?_⟩
  intro y hy
  obtain ⟨ms, h1, h2⟩ := h.history y hy
  exact ⟨ms, h1, hPQ ms h2⟩

theorem Good.append {a b : List Nat} (ha : Good H out a P) (hb : Good H (out ++ a) b P) : Good H out (a ++ b) P where
  fresh := List.forall_mem_append.mpr ⟨ha.fresh, fun y h ho => hb.fresh y h (List.mem_append_left _ ho)⟩
  nodup := List.nodup_append.mpr ⟨ha.nodup, hb.nodup, fun _ hx y hy hxy => hb.fresh y hy (hxy ▸ List.mem_append_right _ hx)⟩
  history := List.forall_mem_append.mpr ⟨ha.history, hb.history⟩

/-- a fold of calls, member `m` walked with path `q m`: every id it adds was added by the call for some `m` -/
theorem calls_spec (H : Hist) (w) (hw : WSpec H w) (q : Nat → List Nat) : ∀ (ms out : List Nat), ∃ new,
    ms.foldl (fun o m => w o m (q m)) out = out ++ new ∧
    Good H out new (fun hist => ∃ m ∈ ms, ∀ z ∈ hist, z ∉ q m) := by
  intro ms
  induction ms with
  | nil => intro out; exact adds_nothing rfl
  | cons m ms ih =>
    intro out
    obtain ⟨a, ha, hga⟩ := hw out m (q m)
    obtain ⟨b, hb, hgb⟩ := ih (out ++ a)
    refine ⟨a ++ b, by rw [List.foldl_cons, ha, hb, List.append_assoc], ?_⟩
    apply Good.append
    · exact hga.mono (fun hist h => ⟨m, List.mem_cons_self .., h⟩)
    · exact hgb.mono (fun hist ⟨m', hm', h⟩ => ⟨m', List.mem_cons_of_mem _ hm', h⟩)

theorem walk_spec (H : Hist) : ∀ f, WSpec H (walk H f) := by
  intro f
  induction f with
  | zero => intro out x p; exact adds_nothing rfl
  | succ f ih =>
    intro out x p
    by_cases hx : x ∈ out
    · exact adds_nothing (walk_of_mem hx)
    cases hms : H x with
    | none => exact adds_nothing (walk_of_none hms)
    | some ms =>
      obtain ⟨new, h1, hg⟩ := calls_spec H (walk H f) ih (fun m => p ++ [m]) (ms.takeWhile (· ∉ p)) out
      refine ⟨new ++ if ms.any (· ∈ p) then [] else [x], by rw [walk_of_some hx hms, h1, List.append_assoc], ?_⟩
      apply Good.append (hg.mono (fun hist ⟨m, _, h⟩ z hz hp => h z hz (List.mem_append_left _ hp)))
      split
      · exact good_nil ..
      · rename_i hcut
        refine Good.singleton (fun hmem => ?_) hms (by simpa using hcut)
        rcases List.mem_append.mp hmem with h | h
        · exact hx h
        · -- added by the call for a member `m` of `x`: but `m` is on that call's path
          obtain ⟨hist, hh, m, hm, hav⟩ := hg.history x h
          rw [hms] at hh
          cases hh
          exact hav m (List.takeWhile_subset _ hm) (List.mem_append_right _ (List.mem_singleton_self m))

/-- a fold of calls under an invariant `I` of the emitted list (`ChildrenFirst` in C14): if every call, started
    under `I`, keeps it and emits its member when that has a history, the fold keeps `I` and emits every member with a
    history -/
theorem calls_emit (H : Hist) (w) (hw : WSpec H w) (q : Nat → List Nat) (I : List Nat → Prop) (ms : List Nat)
    (hcall : ∀ m ∈ ms, ∀ out, I out → I (w out m (q m)) ∧ (H m ≠ none → m ∈ w out m (q m))) :
    ∀ out, I out →
      I (ms.foldl (fun o m => w o m (q m)) out) ∧
      ∀ m ∈ ms, H m ≠ none → m ∈ ms.foldl (fun o m => w o m (q m)) out := by
  induction ms with
  | nil => intro out h; exact ⟨h, fun m hm => by cases hm⟩
  | cons m ms ih =>
    intro out h
    obtain ⟨c1, c2⟩ := hcall m (List.mem_cons_self ..) out h
    obtain ⟨d1, d2⟩ := ih (fun m' hm' => hcall m' (List.mem_cons_of_mem _ hm')) _ c1
    refine ⟨d1, fun m' hm' hne => ?_⟩
    rcases List.mem_cons.mp hm' with rfl | e
    · -- emitted by its own call, and the later calls only append
      obtain ⟨new, h1, _⟩ := calls_spec H w hw q ms (w out m' (q m'))
      rw [List.foldl_cons, h1]
      exact List.mem_append_left _ (c2 hne)
    · exact d2 m' e hne

end OsmVerif.Model.Walk
