import OsmVerif.Model.Pbf
/-! Delta coding, lists built over `List.range` (`mapM` into `Option`, `getD`), and what a decoded dense group is
made of. -/
namespace OsmVerif.Model.Pbf

def sumsFrom (a : Int) : List Int → List Int
  | [] => []
  | d :: rest => (a + d) :: sumsFrom (a + d) rest

def diffsFrom (a : Int) : List Int → List Int
  | [] => []
  | x :: rest => (x - a) :: diffsFrom x rest

theorem undelta_fold (l : List Int) (a : Int) (acc : List Int) :
    (l.foldl (fun (s : Int × List Int) d => (s.1 + d, (s.1 + d) :: s.2)) (a, acc)).2.reverse = acc.reverse ++ sumsFrom a l := by
  induction l generalizing a acc with
  | nil => simp [sumsFrom]
  | cons d rest ih => simp [ih, sumsFrom]

theorem delta_fold (l : List Int) (a : Int) (acc : List Int) :
    (l.foldl (fun (s : Int × List Int) x => (x, (x - s.1) :: s.2)) (a, acc)).2.reverse = acc.reverse ++ diffsFrom a l := by
  induction l generalizing a acc with
  | nil => simp [diffsFrom]
  | cons d rest ih => simp [ih, diffsFrom]

theorem undelta_eq (l : List Int) : undelta l = sumsFrom 0 l := by simp [undelta, undelta_fold]

theorem delta_eq (l : List Int) : delta l = diffsFrom 0 l := by simp [delta, delta_fold]

theorem sumsFrom_length (a : Int) (l : List Int) : (sumsFrom a l).length = l.length := by
  induction l generalizing a with
  | nil => rfl
  | cons x r ih => simp [sumsFrom, ih]

theorem diffsFrom_length (a : Int) (l : List Int) : (diffsFrom a l).length = l.length := by
  induction l generalizing a with
  | nil => rfl
  | cons x r ih => simp [diffsFrom, ih]

theorem delta_length (l : List Int) : (delta l).length = l.length := by
  rw [delta_eq, diffsFrom_length]

theorem undelta_length (l : List Int) : (undelta l).length = l.length := by
  rw [undelta_eq, sumsFrom_length]

theorem sums_diffs (l : List Int) (a : Int) : sumsFrom a (diffsFrom a l) = l := by
  induction l generalizing a with
  | nil => rfl
  | cons x rest ih =>
    have h : a + (x - a) = x := by omega
    simp only [sumsFrom, diffsFrom, h, ih]

theorem diffs_sums (l : List Int) (a : Int) : diffsFrom a (sumsFrom a l) = l := by
  induction l generalizing a with
  | nil => rfl
  | cons x rest ih =>
    have h : a + x - a = x := by omega
    simp only [sumsFrom, diffsFrom, h, ih]

theorem undelta_delta (l : List Int) : undelta (delta l) = l := by
  rw [delta_eq, undelta_eq, sums_diffs]

theorem delta_undelta (l : List Int) : delta (undelta l) = l := by
  rw [undelta_eq, delta_eq, diffs_sums]

theorem mapM_eq_some {α β} {f : α → Option β} {l : List α} {r : List β} :
    l.mapM f = some r ↔ l.map f = r.map some := by
  induction l generalizing r with
  | nil => cases r <;> simp
  | cons a l ih =>
    cases r with
    | nil => rw [List.mapM_cons]; cases f a <;> cases l.mapM f <;> simp
    | cons b r =>
      rw [List.mapM_cons, List.map_cons, List.map_cons, List.cons.injEq, ← ih]
      cases f a <;> cases l.mapM f <;> simp

theorem mapM_none_of_mem {α β} {f : α → Option β} {l : List α} {x : α} (hx : x ∈ l) (h : f x = none) : l.mapM f = none := by
  cases hr : l.mapM f with
  | none => rfl
  | some r =>
    have : f x ∈ r.map some := by rw [← mapM_eq_some.1 hr]; exact List.mem_map_of_mem hx
    simp [h] at this

theorem mapM_map_of_forall {α β γ} {f : α → Option β} {g : α → Option γ} (k : β → γ) {l : List α} {r : List β}
    (h : l.mapM f = some r) (hg : ∀ x y, f x = some y → g x = some (k y)) : l.mapM g = some (r.map k) := by
  rw [mapM_eq_some] at h ⊢
  induction l generalizing r with
  | nil => cases r <;> simp_all
  | cons a l ih =>
    cases r with
    | nil => simp at h
    | cons b r =>
      simp only [List.map_cons, List.cons.injEq] at h ⊢
      exact ⟨hg a b h.1, ih h.2⟩

theorem range_mapM_eq {α β} (g : Nat → Option β) (f : α → β) (l : List α)
    (h : ∀ i (hi : i < l.length), g i = some (f l[i])) : (List.range l.length).mapM g = some (l.map f) := by
  rw [mapM_eq_some]
  apply List.ext_getElem
  · simp
  · intro i h1 h2
    simp only [List.length_map, List.length_range] at h1
    simp [h i h1]

theorem range_mapM_getElem {β} {g : Nat → Option β} {n : Nat} {r : List β} (h : (List.range n).mapM g = some r) :
    r.length = n ∧ ∀ (i : Nat) (hi : i < r.length), g i = some r[i] := by
  rw [mapM_eq_some] at h
  have hlen : r.length = n := by simpa using (congrArg List.length h).symm
  refine ⟨hlen, fun i hi => ?_⟩
  have hf := congrArg (·[i]?) h
  simpa [List.getElem?_range (hlen ▸ hi), List.getElem?_eq_getElem hi] using hf

theorem getD_replicate {α} (n i : Nat) (a : α) : (List.replicate n a).getD i a = a := by
  rw [List.getD_eq_getElem?_getD, List.getElem?_replicate]
  split <;> rfl

theorem range_map_getD {α β} (l : List α) (d : α) (f : α → β) :
    (List.range l.length).map (fun i => f (l.getD i d)) = l.map f := by
  apply List.ext_getElem
  · simp
  · intro i h1 h2
    simp [List.getD_eq_getElem?_getD, List.getElem?_eq_getElem (by simpa using h1 : i < l.length)]

theorem getCol_some (col : List Int) (i : Nat) (h : i < col.length) : getCol (some col) i = some (some col[i]) := by
  simp [getCol, h]

theorem getCol_absent {o : Option (List Int)} {i : Nat} {v : Option Int} (h : getCol o i = some v) (ho : o = none) :
    v = none := by
  subst ho
  exact (Option.some.inj h).symm

/-- the info columns `decodeDense` reads are those of a DenseInfo message that is there -/
theorem col_absent (hasInfo : Bool) (col : Option (List Int)) (hn : ¬ (hasInfo = true ∧ col.isSome = true)) :
    (if hasInfo = true then col else none) = none := by
  cases col <;> simp_all

/-- inversion of `decodeDense`: one node per id, the metadata of node `i` built from entry `i` of every info column
    (`none` for an absent column) -/
theorem decodeDense_getElem {gran dg la lo : Int} {st : List String} {d : Dense} {ns : List Node}
    (h : decodeDense gran dg la lo st d = some ns) :
    ns.length = d.ids.length ∧ ∀ (i : Nat) (hi : i < ns.length), ∃ (v t c u s vi : Option Int) (user : String),
      getCol (if d.hasInfo then d.ver else none) i = some v ∧
      getCol ((if d.hasInfo then d.ts else none).map undelta) i = some t ∧
      getCol ((if d.hasInfo then d.cs else none).map undelta) i = some c ∧
      getCol ((if d.hasInfo then d.uid else none).map undelta) i = some u ∧
      getCol ((if d.hasInfo then d.sid else none).map undelta) i = some s ∧
      getCol (if d.hasInfo then d.vis else none) i = some vi ∧
      (match s with | none => some "" | some s => str st s) = some user ∧
      ns[i].md = { ver := v.getD 0, ts := t.map (· * dg), cs := c.getD 0, uid := u.getD 0, user := user,
                   vis := match vi with | none => true | some x => x ≠ 0 } := by
  unfold decodeDense at h
  simp only at h
  split at h
  · cases h
  · split at h
    · cases h
    · obtain ⟨hlen, hidx⟩ := range_mapM_getElem h
      refine ⟨hlen, fun i hi => ?_⟩
      have hf := hidx i hi
      split at hf
      · rename_i v t c u s vi hv ht hc hu hs hvi
        simp only [Option.map_eq_some_iff] at hf
        obtain ⟨user, huser, hn⟩ := hf
        exact ⟨v, t, c, u, s, vi, user, hv, ht, hc, hu, hs, hvi, huser, hn ▸ rfl⟩
      · cases hf

end OsmVerif.Model.Pbf
