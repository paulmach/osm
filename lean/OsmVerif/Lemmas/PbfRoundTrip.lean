import OsmVerif.Lemmas.Pbf
/-! What an encoder writes (dense nodes, ways, relations), what the format says it means, and the lemmas for the
`decode_encode_*` theorems of `Props.C01`. -/
namespace OsmVerif.Model.Pbf

/-- a dense node before encoding: absolute values, strings as string-table indexes -/
structure RNode where
  id : Int
  lat : Int
  lon : Int
  ver : Int
  ts : Int
  cs : Int
  uid : Int
  sid : Nat
  vis : Bool
  tags : List (Nat × Nat)
  deriving Repr, DecidableEq

def encTags (ts : List (Nat × Nat)) : List Int := ts.flatMap fun (k, v) => [(k : Int), (v : Int)]

/-- the dense message a writer produces for the nodes: every column present, delta coded where the format says so -/
def encodeDense (ns : List RNode) : Dense :=
  { ids := delta (ns.map (·.id)), lat := delta (ns.map (·.lat)), lon := delta (ns.map (·.lon)),
    kv := some (ns.flatMap fun n => encTags n.tags ++ [0]),
    hasInfo := true,
    ver := some (ns.map (·.ver)), ts := some (delta (ns.map (·.ts))), cs := some (delta (ns.map (·.cs))),
    uid := some (delta (ns.map (·.uid))), sid := some (delta (ns.map fun n => (n.sid : Int))),
    vis := some (ns.map fun n => if n.vis then 1 else 0) }

/-- the string references of a node are within the table, and no key is 0: index 0 is the delimiter that ends a
    node's pairs in `keys_vals` -/
def Valid (st : List String) (n : RNode) : Prop :=
  n.sid < st.length ∧ ∀ kv ∈ n.tags, kv.1 ≠ 0 ∧ kv.1 < st.length ∧ kv.2 < st.length

/-- what the format says the node is -/
def meaning (gran dg la lo : Int) (st : List String) (n : RNode) : Node :=
  { id := n.id,
    md := { ver := n.ver, ts := some (n.ts * dg), cs := n.cs, uid := n.uid, user := st.getD n.sid "", vis := n.vis },
    lat := la + gran * n.lat, lon := lo + gran * n.lon,
    tags := n.tags.map fun (k, v) => (st.getD k "", st.getD v "") }

def resolveTags (st : List String) (tags : List (Nat × Nat)) : List (String × String) :=
  tags.map fun (k, v) => (st.getD k "", st.getD v "")

theorem str_nat (st : List String) (i : Nat) (h : i < st.length) : str st (i : Int) = some (st.getD i "") := by
  unfold str
  have : ¬ ((i : Int) < 0) := by omega
  simp [this, List.getD_eq_getElem?_getD, h]

theorem encTags_cons (k v : Nat) (tl : List (Nat × Nat)) : encTags ((k, v) :: tl) = (k : Int) :: (v : Int) :: encTags tl :=
  rfl

theorem encTags_length (ts : List (Nat × Nat)) : (encTags ts).length = 2 * ts.length := by
  induction ts with
  | nil => rfl
  | cons kv tl ih =>
    rw [encTags_cons, List.length_cons, List.length_cons, ih, List.length_cons]
    omega

theorem one_tags (st : List String) (tags : List (Nat × Nat)) (rest : List Int) (acc : List (String × String)) (fuel : Nat)
    (hv : ∀ kv ∈ tags, kv.1 ≠ 0 ∧ kv.1 < st.length ∧ kv.2 < st.length) (hf : tags.length < fuel) :
    splitKV.one st fuel (encTags tags ++ 0 :: rest) acc =
      some (acc.reverse ++ resolveTags st tags, rest) := by
  induction tags generalizing acc fuel with
  | nil =>
    cases fuel with
    | zero => cases hf
    | succ f => simp [encTags, splitKV.one, resolveTags]
  | cons kv tl ih =>
    obtain ⟨k, v⟩ := kv
    obtain ⟨hk0, hk, hv'⟩ := hv (k, v) List.mem_cons_self
    cases fuel with
    | zero => cases hf
    | succ f =>
      rw [encTags_cons, List.cons_append, List.cons_append]
      -- the key is not the delimiter, so this is the arm of `splitKV.one` that reads a pair
      rw [splitKV.one]
      · rw [str_nat st k hk, str_nat st v hv']
        simp only []
        rw [ih _ f (fun x hx => hv x (List.mem_cons_of_mem _ hx)) (Nat.lt_of_succ_lt_succ hf)]
        simp [resolveTags]
      · exact fun h => hk0 (Int.natCast_eq_zero.1 h)

theorem splitKV_enc (st : List String) (ns : List RNode) (hv : ∀ n ∈ ns, Valid st n) :
    splitKV st ns.length (ns.flatMap fun n => encTags n.tags ++ [0]) =
      some (ns.map fun n => resolveTags st n.tags) := by
  induction ns with
  | nil => simp [splitKV]
  | cons n rest ih =>
    simp only [List.length_cons, List.flatMap_cons, List.append_assoc, List.singleton_append, List.map_cons]
    rw [splitKV, one_tags st n.tags _ [] _ (hv n (by simp)).2 (by simp [encTags_length]; omega)]
    simp [ih (fun m hm => hv m (by simp [hm]))]

structure RMeta where
  ver : Int
  ts : Int
  cs : Int
  uid : Int
  sid : Nat
  vis : Bool
  deriving Repr, DecidableEq

def encodeInfo (m : RMeta) : Info :=
  { ver := some m.ver, ts := some m.ts, cs := some m.cs, uid := some m.uid, sid := some (m.sid : Int), vis := some (if m.vis then 1 else 0) }

def metaMeaning (dg : Int) (st : List String) (m : RMeta) : Meta :=
  { ver := m.ver, ts := some (m.ts * dg), cs := m.cs, uid := m.uid, user := st.getD m.sid "", vis := m.vis }

theorem decodeInfo_encode (dg : Int) (st : List String) (m : RMeta) (h : m.sid < st.length) :
    decodeInfo dg st (some (encodeInfo m)) = some (metaMeaning dg st m) := by
  simp only [decodeInfo, encodeInfo, str_nat st m.sid h, Option.map_some, metaMeaning, Option.getD_some]
  cases m.vis <;> simp

theorem decodeTags_encode (st : List String) (tags : List (Nat × Nat)) (h : ∀ kv ∈ tags, kv.1 < st.length ∧ kv.2 < st.length) :
    decodeTags st (some (tags.map fun kv => (kv.1 : Int))) (some (tags.map fun kv => (kv.2 : Int))) = some (resolveTags st tags) := by
  simp only [decodeTags, List.length_map, ne_eq, not_true_eq_false, if_false]
  rw [mapM_eq_some, List.zip_map', resolveTags, List.map_map, List.map_map]
  apply List.map_congr_left
  intro kv hkv
  simp [str_nat st kv.1 (h kv hkv).1, str_nat st kv.2 (h kv hkv).2]

structure RWay where
  id : Int
  md : RMeta
  tags : List (Nat × Nat)
  refs : List Int
  deriving Repr, DecidableEq

def encodeWay (w : RWay) : WayMsg :=
  { id := w.id, keys := some (w.tags.map fun kv => (kv.1 : Int)), vals := some (w.tags.map fun kv => (kv.2 : Int)),
    info := some (encodeInfo w.md), refs := some (delta w.refs) }

def wayMeaning (dg : Int) (st : List String) (w : RWay) : Way :=
  { id := w.id, md := metaMeaning dg st w.md, tags := resolveTags st w.tags, nodes := w.refs.map fun r => { ref := r } }

structure RRel where
  id : Int
  md : RMeta
  tags : List (Nat × Nat)
  members : List (Nat × Int × Nat)     -- (type 0..2, ref, role string index)
  deriving Repr, DecidableEq

def encodeRel (r : RRel) : RelMsg :=
  { id := r.id, keys := some (r.tags.map fun kv => (kv.1 : Int)), vals := some (r.tags.map fun kv => (kv.2 : Int)),
    info := some (encodeInfo r.md),
    roles := some (r.members.map fun m => (m.2.2 : Int)), memids := some (delta (r.members.map (·.2.1))),
    types := some (r.members.map fun m => (m.1 : Int)) }

def relMeaning (dg : Int) (st : List String) (r : RRel) : Rel :=
  { id := r.id, md := metaMeaning dg st r.md, tags := resolveTags st r.tags,
    members := r.members.map fun m => { type := (m.1 : Int), ref := m.2.1, role := st.getD m.2.2 "" } }

end OsmVerif.Model.Pbf
