/-! Bit fields of a 64-bit word read as arithmetic on `toNat`: masking with a field keeps a range of binary
digits, writing below a multiple of a power of two is addition (core Lean only). -/
namespace OsmVerif.Bits

theorem and_fieldMask (x o w : Nat) : x &&& ((2^w - 1) <<< o) = x / 2^o % 2^w * 2^o := by
  apply Nat.eq_of_testBit_eq
  intro i
  simp only [Nat.testBit_and, Nat.testBit_shiftLeft, Nat.testBit_two_pow_sub_one, Nat.testBit_mul_two_pow,
    Nat.testBit_mod_two_pow, Nat.testBit_div_two_pow]
  by_cases h : o ≤ i
  · simp [h, Nat.sub_add_cancel h, Bool.and_comm]
  · simp [h]

/-- For a mask constant `m`, `hm` is closed by `rfl` at each use, so it fails when the constant changes. -/
theorem toNat_and_field (x m : BitVec 64) (o w : Nat) (hm : m.toNat = (2^w - 1) <<< o) :
    (x &&& m).toNat = x.toNat / 2^o % 2^w * 2^o := by
  rw [BitVec.toNat_and, hm, and_fieldMask]

theorem or_eq_add {a b : Nat} (o : Nat) (ha : 2^o ∣ a) (hb : b < 2^o) : a ||| b = a + b := by
  obtain ⟨c, rfl⟩ := ha
  exact (Nat.two_pow_add_eq_or_of_lt hb c).symm

end OsmVerif.Bits
