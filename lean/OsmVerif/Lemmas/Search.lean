import OsmVerif.Model.Polygon
import OsmVerif.Lemmas.List
/-! `isort` returns the sorted permutation of its input (by the ordered-insert facts of `Lemmas.List`); `bsearch`
returns the first index at which a monotone predicate holds, so that on a sorted list the code's search-then-compare
test is membership. -/
namespace OsmVerif.Model.Polygon

abbrev Sorted (l : List String) : Prop := l.Pairwise (· ≤ ·)

/-- written with `decide (x ≤ y)` to be the equation `List.perm_of_ins` and `List.pairwise_of_ins` ask for, of an
    insert that tests with some `le : α → α → Bool` -/
theorem insert_cons (x y : String) (ys : List String) :
    insert x (y :: ys) = if decide (x ≤ y) then x :: y :: ys else y :: insert x ys := by
  rw [insert]
  simp only [decide_eq_true_eq]

theorem insert_perm (x : String) (l : List String) : (insert x l).Perm (x :: l) :=
  List.perm_of_ins (ins := Polygon.insert) (fun _ => rfl) insert_cons x l

theorem isort_perm : ∀ l : List String, (isort l).Perm l
  | [] => List.Perm.refl _
  | x :: xs => (insert_perm x (isort xs)).trans ((isort_perm xs).cons x)

theorem mem_isort (y : String) (l : List String) : y ∈ isort l ↔ y ∈ l :=
  (isort_perm l).mem_iff

theorem insert_sorted (x : String) (l : List String) (h : Sorted l) : Sorted (insert x l) :=
  List.pairwise_of_ins (ins := Polygon.insert) (fun _ => rfl) insert_cons (fun _ _ hxy => of_decide_eq_true hxy)
    (fun a b hab => (String.le_total a b).resolve_left fun h => hab (decide_eq_true h))
    (fun _ _ _ hxy => String.le_trans (of_decide_eq_true hxy)) x h

theorem isort_sorted : ∀ l : List String, Sorted (isort l)
  | [] => List.Pairwise.nil
  | x :: xs => insert_sorted x _ (isort_sorted xs)

theorem bsearch_spec (f : Nat → Bool) (n : Nat) (mono : ∀ a b, a ≤ b → b < n → f a = true → f b = true)
    (fuel i j : Nat) (hjn : j ≤ n) (hij : i ≤ j) (hf : j - i ≤ fuel)
    (hlo : ∀ k, k < i → f k = false) (hhi : ∀ k, j ≤ k → k < n → f k = true) :
    bsearch f fuel i j ≤ n ∧ (∀ k, k < bsearch f fuel i j → f k = false) ∧
      (∀ k, bsearch f fuel i j ≤ k → k < n → f k = true) := by
  -- the interval is halved at `h`; monotonicity extends the invariant to the side `h` is on
  fun_induction bsearch f fuel i j with
  | case1 i j =>
    obtain rfl : i = j := by omega
    exact ⟨hjn, hlo, hhi⟩
  | case2 fuel i j hlt h hfh ih =>
    have hh : i ≤ h ∧ h < j := by omega
    clear_value h
    refine ih hjn hh.2 (by omega) (fun k hk => Bool.eq_false_iff.mpr fun hfk => ?_) hhi
    rw [mono k h (by omega) (by omega) hfk] at hfh
    cases hfh
  | case3 fuel i j hlt h hfh ih =>
    have hh : i ≤ h ∧ h < j := by omega
    clear_value h
    exact ih (by omega) hh.1 (by omega) hlo fun k hk hkn => mono h k hk hkn (by simpa using hfh)
  | case4 fuel i j hnlt =>
    obtain rfl : i = j := by omega
    exact ⟨hjn, hlo, hhi⟩

theorem sorted_get_le {l : List String} (h : Sorted l) {a b : Nat} (hab : a ≤ b) (hb : b < l.length) :
    l.getD a "" ≤ l.getD b "" := by
  have ha : a < l.length := by omega
  rw [← List.getElem_eq_getD (h := ha), ← List.getElem_eq_getD (h := hb)]
  by_cases e : a = b
  · subst e; exact String.le_refl _
  · exact (List.pairwise_iff_getElem.mp h) a b ha hb (by omega)

theorem searchStrings_mem (l : List String) (h : Sorted l) (v : String) :
    (searchStrings l v ≠ l.length ∧ l.getD (searchStrings l v) "" = v) ↔ v ∈ l := by
  have mono : ∀ a b, a ≤ b → b < l.length → decide (l.getD a "" ≥ v) = true → decide (l.getD b "" ≥ v) = true := by
    intro a b hab hb hfa
    simp only [decide_eq_true_eq] at hfa ⊢
    exact String.le_trans hfa (sorted_get_le h hab hb)
  obtain ⟨hle, hlo, hhi⟩ : searchStrings l v ≤ l.length ∧ _ ∧ _ :=
    bsearch_spec _ l.length mono l.length 0 l.length (Nat.le_refl _) (Nat.zero_le _) (by omega)
      (fun k hk => absurd hk (Nat.not_lt_zero k)) (fun k hk hk2 => absurd hk2 (by omega))
  constructor
  · rintro ⟨hne, hv⟩
    have hlt : searchStrings l v < l.length := by omega
    rw [← List.getElem_eq_getD (h := hlt)] at hv
    exact hv ▸ List.getElem_mem hlt
  · intro hmem
    obtain ⟨m, hm, rfl⟩ := List.getElem_of_mem hmem
    -- the search stops at or before `m`, where the predicate holds; there the entry is both ≥ and ≤ `l[m]`
    have hrm : searchStrings l l[m] ≤ m := by
      apply Nat.le_of_not_lt
      intro hlt
      have hfm := hlo m hlt
      rw [← List.getElem_eq_getD (h := hm)] at hfm
      simp at hfm
    have hrl : searchStrings l l[m] < l.length := by omega
    refine ⟨by omega, String.le_antisymm ?_ (of_decide_eq_true (hhi _ (Nat.le_refl _) hrl))⟩
    have hsm := sorted_get_le h hrm hm
    rw [← List.getElem_eq_getD (h := hm)] at hsm
    exact hsm

end OsmVerif.Model.Polygon
