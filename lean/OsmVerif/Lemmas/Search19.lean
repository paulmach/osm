import OsmVerif.Model.Search
/-! The binary search of the replication state lookup (`findInRange` in replication/search.go), studied
through its logging twin: what the neighbour probes request and find, what one iteration has learnt when
it has found a state (`Split`), and an induction principle for `findInRangeL` that hands every proof about
the loop that description instead of the code. The plain functions are the first components of their twins
and get their facts from them. -/
namespace OsmVerif.Model.Search

/-- of the state files that exist, the one with the higher sequence number carries the strictly later timestamp:
    the assumption about the server under which a search by timestamp finds the first state at or after `t` -/
def Mono (av : Avail) : Prop := ∀ i j a b, i < j → av i = some a → av j = some b → a < b

theorem probeDownL_some {av : Avail} {lo s0 s : Nat} {ts : Int} {l : List Nat}
    (h : probeDownL av lo s0 = (some (s, ts), l)) :
    lo < s ∧ av s = some ts ∧ ∃ d, s + d = s0 ∧ l.length = d + 1 ∧ ∀ j, s < j → j ≤ s + d → av j = none := by
  fun_induction probeDownL av lo s0 generalizing l with
  | case1 => cases h
  | case2 k hlo ts' hav =>
    cases h
    exact ⟨hlo, hav, 0, rfl, rfl, fun j h1 h2 => by omega⟩
  | case3 k hlo hav r l' hrec ih =>
    cases h
    obtain ⟨h1, h2, d, hd, hl, hrun⟩ := ih hrec
    refine ⟨h1, h2, d + 1, by omega, by rw [List.length_cons, hl], fun j hj1 hj2 => ?_⟩
    rcases Nat.lt_or_ge j (k + 1) with hj | hj
    · exact hrun j hj1 (by omega)
    · exact (by omega : j = k + 1) ▸ hav
  | case4 => cases h

theorem probeDownL_none {av : Avail} {lo s0 : Nat} {l : List Nat} (h : probeDownL av lo s0 = (none, l)) :
    (∀ j, lo < j → j ≤ s0 → av j = none) ∧ (lo ≤ s0 → l.length + lo = s0) := by
  fun_induction probeDownL av lo s0 generalizing l with
  | case1 => cases h; exact ⟨fun j h1 h2 => by omega, fun hlo => by rw [List.length_nil]; omega⟩
  | case2 => cases h
  | case3 k hk hav r l' hrec ih =>
    cases h
    obtain ⟨h1, h2⟩ := ih hrec
    refine ⟨fun j hj1 hj2 => ?_, fun _ => by rw [List.length_cons, ← h2 (by omega)]; omega⟩
    rcases Nat.lt_or_ge j (k + 1) with hj | hj
    · exact h1 j hj1 (by omega)
    · exact (by omega : j = k + 1) ▸ hav
  | case4 k hk => cases h; exact ⟨fun j h1 h2 => by omega, fun hlo => by rw [List.length_nil]; omega⟩

theorem probeUpL_some {av : Avail} {hi f s0 s : Nat} {ts : Int} {l : List Nat}
    (h : probeUpL av hi f s0 = (some (s, ts), l)) :
    s < hi ∧ av s = some ts ∧ ∃ k, s0 + k = s ∧ l.length = k + 1 ∧ ∀ j, s0 ≤ j → j < s → av j = none := by
  fun_induction probeUpL av hi f s0 generalizing l with
  | case1 => cases h
  | case2 f s0 hs ts' hav =>
    cases h
    exact ⟨hs, hav, 0, rfl, rfl, fun j h1 h2 => by omega⟩
  | case3 f s0 hs hav r l' hrec ih =>
    cases h
    obtain ⟨h1, h2, k, hk, hl, hrun⟩ := ih hrec
    refine ⟨h1, h2, k + 1, by omega, by rw [List.length_cons, hl], fun j hj1 hj2 => ?_⟩
    rcases Nat.eq_or_lt_of_le hj1 with e | e
    · exact e ▸ hav
    · exact hrun j e hj2
  | case4 => cases h

theorem probeUpL_none {av : Avail} {hi f s0 : Nat} {l : List Nat} (hf : hi ≤ s0 + f)
    (h : probeUpL av hi f s0 = (none, l)) :
    (∀ j, s0 ≤ j → j < hi → av j = none) ∧ (s0 ≤ hi → l.length + s0 = hi) := by
  fun_induction probeUpL av hi f s0 generalizing l with
  | case1 => cases h; exact ⟨fun j h1 h2 => by omega, fun hs => by rw [List.length_nil]; omega⟩
  | case2 => cases h
  | case3 f s0 hlt hav r l' hrec ih =>
    cases h
    obtain ⟨h1, h2⟩ := ih (by omega) hrec
    refine ⟨fun j hj1 hj2 => ?_, fun _ => by rw [List.length_cons, ← h2 (by omega)]; omega⟩
    rcases Nat.eq_or_lt_of_le hj1 with e | e
    · exact e ▸ hav
    · exact h1 j e hj2
  | case4 f s0 hge => cases h; exact ⟨fun j h1 h2 => by omega, fun hs => by rw [List.length_nil]; omega⟩

theorem probeDownL_fst (av : Avail) (lo s : Nat) : (probeDownL av lo s).1 = probeDown av lo s := by
  induction s with
  | zero => rfl
  | succ s ih =>
    unfold probeDownL probeDown
    split
    · cases av (s + 1) <;> simp [ih]
    · rfl

theorem probeUpL_fst (av : Avail) (hi f s : Nat) : (probeUpL av hi f s).1 = probeUp av hi f s := by
  induction f generalizing s with
  | zero => rfl
  | succ f ih =>
    unfold probeUpL probeUp
    split
    · cases av s <;> simp [ih]
    · rfl

theorem pickSplitL_fst (av : Avail) (lo hi : Nat) : (pickSplitL av lo hi).1 = pickSplit av lo hi := by
  unfold pickSplitL pickSplit
  simp only
  rw [← probeDownL_fst av lo ((lo + hi) / 2)]
  rcases probeDownL av lo ((lo + hi) / 2) with ⟨r, l⟩
  cases r with
  | none => simp [probeUpL_fst]
  | some r => simp

theorem probeDown_spec (av : Avail) (lo : Nat) : ∀ s r,
    probeDown av lo s = some r → lo < r.1 ∧ r.1 ≤ s ∧ av r.1 = some r.2 := by
  intro s r h
  obtain ⟨h1, h2, d, hd, _⟩ := probeDownL_some (Prod.ext ((probeDownL_fst av lo s).trans h) rfl)
  exact ⟨h1, by omega, h2⟩

theorem probeDown_none (av : Avail) (lo : Nat) : ∀ s,
    probeDown av lo s = none → ∀ j, lo < j → j ≤ s → av j = none :=
  fun s h => (probeDownL_none (Prod.ext ((probeDownL_fst av lo s).trans h) rfl)).1

theorem probeUp_spec (av : Avail) (hi : Nat) : ∀ f s r,
    probeUp av hi f s = some r → s ≤ r.1 ∧ r.1 < hi ∧ av r.1 = some r.2 := by
  intro f s r h
  obtain ⟨h1, h2, k, hk, _⟩ := probeUpL_some (Prod.ext ((probeUpL_fst av hi f s).trans h) rfl)
  exact ⟨by omega, h1, h2⟩

theorem probeUp_none (av : Avail) (hi : Nat) : ∀ f s,
    hi ≤ s + f → probeUp av hi f s = none → ∀ j, s ≤ j → j < hi → av j = none :=
  fun f s hf h => (probeUpL_none hf (Prod.ext ((probeUpL_fst av hi f s).trans h) rfl)).1

/-- What one pass through the body of `findInRange`'s loop has learnt when it ends with a split state `s`,
    written at `ts`, after `n` requests. The loop asks for the midpoint of `(lo, hi)`, on a 404 steps down from
    it towards `lo`, and if that finds nothing steps up from it towards `hi`. So either `s` lies `d` below the
    midpoint with the `d` files between them missing (`d + 1` requests), or above it with everything between
    `lo` and it missing (one request for each of these files and one for `s`). Each finding has the shape in
    which it is used: `(s, s + d]` is a missing prefix of the interval above `s`, and `(lo, s)` an interval with
    nothing in it. -/
structure Split (av : Avail) (lo hi s : Nat) (ts : Int) (n : Nat) : Prop where
  lo_lt : lo < s
  lt_hi : s < hi
  av_eq : av s = some ts
  side : (∃ d, s + d = (lo + hi) / 2 ∧ n = d + 1 ∧ ∀ j, s < j → j ≤ s + d → av j = none) ∨
    ((lo + hi) / 2 < s ∧ lo + n = s ∧ ∀ j, lo < j → j < s → av j = none)

theorem Split.above_prefix {av : Avail} {lo hi s : Nat} {ts : Int} {n r : Nat} (hs : Split av lo hi s ts n)
    (hr : ∀ j, lo < j → j ≤ lo + r → av j = none) : lo + r < s :=
  Nat.lt_of_not_le fun hle => by
    have := hr s hs.lo_lt hle
    rw [hs.av_eq] at this
    cases this

theorem pickSplitL_some {av : Avail} {lo hi s : Nat} {ts : Int} {l : List Nat} (hgap : lo + 1 < hi)
    (h : pickSplitL av lo hi = (some (s, ts), l)) : Split av lo hi s ts l.length := by
  revert h
  fun_cases pickSplitL av lo hi with
  | case1 mid r l' hd =>
    intro h
    cases h
    obtain ⟨h1, h2, d, hd, hl, hrun⟩ := probeDownL_some hd
    exact ⟨h1, by omega, h2, .inl ⟨d, hd, hl, hrun⟩⟩
  | case2 mid l1 hd r l2 hu =>
    intro h
    cases h
    obtain ⟨d1, d2⟩ := probeDownL_none hd
    obtain ⟨h1, h2, k, hk, hl, hrun⟩ := probeUpL_some hu
    refine ⟨by omega, h1, h2, .inr ⟨by omega, ?_, fun j hj1 hj2 => ?_⟩⟩
    · rw [List.length_append, hl]
      have := d2 (by omega)
      omega
    · rcases Nat.lt_or_ge mid j with c | c
      · exact hrun j c hj2
      · exact d1 j hj1 c

theorem pickSplitL_none {av : Avail} {lo hi : Nat} {l : List Nat} (hgap : lo + 1 < hi)
    (h : pickSplitL av lo hi = (none, l)) :
    (∀ j, lo < j → j < hi → av j = none) ∧ l.length + lo + 1 = hi := by
  revert h
  fun_cases pickSplitL av lo hi with
  | case1 mid r l' hd =>
    intro h
    cases h
  | case2 mid l1 hd r l2 hu =>
    intro h
    cases h
    obtain ⟨d1, d2⟩ := probeDownL_none hd
    obtain ⟨u1, u2⟩ := probeUpL_none (by omega) hu
    refine ⟨fun j hj1 hj2 => ?_, ?_⟩
    · rcases Nat.lt_or_ge mid j with c | c
      · exact u1 j c hj2
      · exact d1 j hj1 c
    · rw [List.length_append]
      have := d2 (by omega)
      have := u2 (by omega)
      omega

theorem pickSplit_some (av : Avail) (lo hi : Nat) (h : lo + 1 < hi) (r : Nat × Int)
    (hr : pickSplit av lo hi = some r) : lo < r.1 ∧ r.1 < hi ∧ av r.1 = some r.2 := by
  have hs := pickSplitL_some h (Prod.ext ((pickSplitL_fst av lo hi).trans hr) rfl)
  exact ⟨hs.lo_lt, hs.lt_hi, hs.av_eq⟩

theorem pickSplit_none (av : Avail) (lo hi : Nat) (h : lo + 1 < hi)
    (hr : pickSplit av lo hi = none) : ∀ j, lo < j → j < hi → av j = none :=
  (pickSplitL_none h (Prod.ext ((pickSplitL_fst av lo hi).trans hr) rfl)).1

theorem findInRangeL_stop {av : Avail} {t : Int} {f lo hi : Nat} (h : f = 0 ∨ hi ≤ lo + 1) :
    findInRangeL av t f lo hi = (hi, []) := by
  cases f with
  | zero => rfl
  | succ f => simp only [findInRangeL, show ¬ lo + 1 < hi by omega, if_false]

theorem findInRangeL_empty {av : Avail} {t : Int} {f lo hi : Nat} {l : List Nat} (hgap : lo + 1 < hi)
    (hp : pickSplitL av lo hi = (none, l)) : findInRangeL av t (f + 1) lo hi = (hi, l) := by
  simp only [findInRangeL, hgap, hp, if_true]

theorem findInRangeL_upper {av : Avail} {t : Int} {f lo hi s : Nat} {ts : Int} {l : List Nat} (hgap : lo + 1 < hi)
    (hp : pickSplitL av lo hi = (some (s, ts), l)) (h : ts < t) :
    findInRangeL av t (f + 1) lo hi = ((findInRangeL av t f s hi).1, l ++ (findInRangeL av t f s hi).2) := by
  simp only [findInRangeL, hgap, hp, h, if_true]

theorem findInRangeL_lower {av : Avail} {t : Int} {f lo hi s : Nat} {ts : Int} {l : List Nat} (hgap : lo + 1 < hi)
    (hp : pickSplitL av lo hi = (some (s, ts), l)) (h : ¬ ts < t) :
    findInRangeL av t (f + 1) lo hi = ((findInRangeL av t f lo s).1, l ++ (findInRangeL av t f lo s).2) := by
  simp only [findInRangeL, hgap, hp, h, if_true, if_false]

/-- Induction along a run of `findInRange`'s loop, one case for each way through its body: the loop is over
    (no fuel, or the bounds adjacent), the iteration finds the whole interior missing and returns `hi`, or it
    finds a `Split` and goes on above it (`ts < t`) or below it. Each case comes with what `findInRangeL` then
    is, for every fuel, so that a proof never unfolds the loop or the probes. -/
theorem findInRangeL_induct {av : Avail} {t : Int} {P : Nat → Nat → Nat → Prop}
    (stop : ∀ f lo hi, f = 0 ∨ hi ≤ lo + 1 → findInRangeL av t f lo hi = (hi, []) → P f lo hi)
    (empty : ∀ f lo hi l, lo + 1 < hi → (∀ j, lo < j → j < hi → av j = none) → l.length + lo + 1 = hi →
      (∀ f', findInRangeL av t (f' + 1) lo hi = (hi, l)) → P (f + 1) lo hi)
    (upper : ∀ f lo hi s ts l, Split av lo hi s ts l.length → ts < t →
      (∀ f', findInRangeL av t (f' + 1) lo hi = ((findInRangeL av t f' s hi).1, l ++ (findInRangeL av t f' s hi).2)) →
      P f s hi → P (f + 1) lo hi)
    (lower : ∀ f lo hi s ts l, Split av lo hi s ts l.length → ¬ ts < t →
      (∀ f', findInRangeL av t (f' + 1) lo hi = ((findInRangeL av t f' lo s).1, l ++ (findInRangeL av t f' lo s).2)) →
      P f lo s → P (f + 1) lo hi)
    (f lo hi : Nat) : P f lo hi := by
  induction f generalizing lo hi with
  | zero => exact stop 0 lo hi (.inl rfl) rfl
  | succ f ih =>
    by_cases hgap : lo + 1 < hi
    · rcases hp : pickSplitL av lo hi with ⟨_ | ⟨s, ts⟩, l⟩
      · obtain ⟨h1, h2⟩ := pickSplitL_none hgap hp
        exact empty f lo hi l hgap h1 h2 (fun f' => findInRangeL_empty hgap hp)
      · by_cases hlt : ts < t
        · exact upper f lo hi s ts l (pickSplitL_some hgap hp) hlt (fun f' => findInRangeL_upper hgap hp hlt) (ih s hi)
        · exact lower f lo hi s ts l (pickSplitL_some hgap hp) hlt (fun f' => findInRangeL_lower hgap hp hlt) (ih lo s)
    · exact stop (f + 1) lo hi (.inr (by omega)) (findInRangeL_stop (.inr (by omega)))

end OsmVerif.Model.Search
