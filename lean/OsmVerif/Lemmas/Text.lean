import OsmVerif.Model.Text
/-! `splitOn c` cuts a text into parts free of `c` that `joinWith c` puts together again, and leaves a text free of `c`
in one piece; `parseInt64` accepts only numerals and reads back the decimal text of a number in range. -/
namespace OsmVerif.Model.Text

theorem splitOn_ne_nil (c : Char) (s : List Char) : splitOn c s ≠ [] := by
  fun_induction splitOn c s <;> simp

/-- `strings.Join(parts, string(c))` -/
def joinWith (c : Char) : List (List Char) → List Char
  | [] => []
  | [p] => p
  | p :: q :: rest => p ++ c :: joinWith c (q :: rest)

theorem joinWith_cons_head (c x : Char) (p : List Char) (ps : List (List Char)) :
    joinWith c ((x :: p) :: ps) = x :: joinWith c (p :: ps) := by
  cases ps <;> rfl

theorem splitOn_spec (c : Char) (s : List Char) :
    (∀ p ∈ splitOn c s, c ∉ p) ∧ joinWith c (splitOn c s) = s := by
  fun_induction splitOn c s with
  | case1 => simp [joinWith]
  | case2 xs ih =>
    obtain ⟨p, ps, hs⟩ := List.exists_cons_of_ne_nil (splitOn_ne_nil c xs)
    rw [hs] at ih ⊢
    simp only [List.forall_mem_cons] at ih ⊢
    exact ⟨⟨List.not_mem_nil, ih.1⟩, by rw [joinWith, ih.2]; rfl⟩
  | case3 x xs hx hnil ih => exact absurd hnil (splitOn_ne_nil c xs)
  | case4 x xs hx p ps hs ih =>
    rw [hs] at ih
    simp only [List.forall_mem_cons] at ih ⊢
    have hxp : c ∉ x :: p := by simp [ih.1.1, Ne.symm hx]
    exact ⟨⟨hxp, ih.1.2⟩, by rw [joinWith_cons_head, ih.2]⟩

theorem splitOn_of_not_mem (c : Char) (a : List Char) (h : c ∉ a) : splitOn c a = [a] := by
  induction a with
  | nil => simp [splitOn]
  | cons x xs ih =>
    have hx : x ≠ c := fun e => h (by simp [e])
    have hxs : c ∉ xs := fun e => h (by simp [e])
    simp [splitOn, hx, ih hxs]

theorem splitOn_append (c : Char) (a b : List Char) (h : c ∉ a) :
    splitOn c (a ++ c :: b) = a :: splitOn c b := by
  induction a with
  | nil => simp [splitOn]
  | cons x xs ih =>
    have hx : x ≠ c := fun e => h (by simp [e])
    have hxs : c ∉ xs := fun e => h (by simp [e])
    simp [splitOn, hx, ih hxs]

theorem splitOn_two {c : Char} {s a b : List Char} (h : splitOn c s = [a, b]) :
    s = a ++ c :: b ∧ c ∉ a ∧ c ∉ b := by
  have sp := splitOn_spec c s
  rw [h] at sp
  exact ⟨sp.2.symm, sp.1 a (by simp), sp.1 b (by simp)⟩

theorem splitOn_one {c : Char} {s a : List Char} (h : splitOn c s = [a]) : s = a ∧ c ∉ a := by
  have sp := splitOn_spec c s
  rw [h] at sp
  exact ⟨sp.2.symm, sp.1 a (by simp)⟩

def IsNumeral (l : List Char) : Prop :=
  ∃ ds : List Char, (l = ds ∨ l = '-' :: ds ∨ l = '+' :: ds) ∧ ds ≠ [] ∧ ∀ c ∈ ds, c.isDigit = true

theorem parseNat_some {l : List Char} {n : Nat} (h : parseNat l = some n) :
    l ≠ [] ∧ (∀ c ∈ l, c.isDigit = true) ∧ n = Nat.ofDigitChars 10 l 0 := by
  unfold parseNat at h
  split at h
  · cases h
  · rename_i hc
    simp only [Bool.or_eq_true, List.isEmpty_iff, Bool.not_eq_true', not_or, Bool.not_eq_false] at hc
    refine ⟨hc.1, ?_, ?_⟩
    · intro c hcm; exact List.all_eq_true.mp hc.2 c hcm
    · cases h; rfl

theorem parseNat_digits {l : List Char} (h : parseNat l ≠ none) : l ≠ [] ∧ ∀ c ∈ l, c.isDigit = true := by
  cases hp : parseNat l with
  | none => exact absurd hp h
  | some n => exact ⟨(parseNat_some hp).1, (parseNat_some hp).2.1⟩

theorem parseInt64_numeral {l : List Char} (h : parseInt64 l ≠ none) : IsNumeral l := by
  unfold parseInt64 at h
  split at h
  · next t => exact ⟨t, Or.inr (Or.inl rfl), parseNat_digits (fun e => by simp [e] at h)⟩
  · next t => exact ⟨t, Or.inr (Or.inr rfl), parseNat_digits (fun e => by simp [e] at h)⟩
  · exact ⟨l, Or.inl rfl, parseNat_digits (fun e => by simp [e] at h)⟩

theorem parseNat_toDigits (n : Nat) : parseNat (Nat.toDigits 10 n) = some n := by
  unfold parseNat
  have h1 : (Nat.toDigits 10 n).isEmpty = false := by
    simp [Nat.toDigits_ne_nil]
  have h2 : (Nat.toDigits 10 n).all Char.isDigit = true := by
    rw [List.all_eq_true]
    intro c hc
    exact Nat.isDigit_of_mem_toDigits (by decide) (by decide) hc
  simp [h1, h2]

theorem sep_not_mem_toDigits (n : Nat) (c : Char) (hc : c.isDigit = false := by decide) :
    c ∉ Nat.toDigits 10 n := by
  intro h
  have := Nat.isDigit_of_mem_toDigits (b := 10) (by decide) (by decide) h
  simp [hc] at this

theorem parseInt64_showNat (n : Nat) (hn : n < 2^63) : parseInt64 (Nat.toDigits 10 n) = some (n : Int) := by
  have hminus := sep_not_mem_toDigits n '-'
  have hplus := sep_not_mem_toDigits n '+'
  unfold parseInt64
  split
  · next t heq => simp [heq] at hminus
  · next t heq => simp [heq] at hplus
  · simp [parseNat_toDigits, hn]

theorem showInt_natCast (n : Nat) : showInt (n : Int) = Nat.toDigits 10 n := by
  unfold showInt
  have : ¬ ((n : Int) < 0) := by omega
  simp [this]

end OsmVerif.Model.Text
