import OsmVerif.Lemmas.Geo
import OsmVerif.Lemmas.List
/-! When every end point of the input pieces is shared by exactly two piece ends, every group `Join` builds is
closed. -/
namespace OsmVerif.Model.Geo

def ends (s : Seg) : List P :=
  match s.full.head?, s.full.getLast? with
  | some a, some b => [a, b]
  | _, _ => []

theorem ends_eq {s : Seg} {a b : P} (ha : s.full.head? = some a) (hb : s.full.getLast? = some b) : ends s = [a, b] := by
  unfold ends
  rw [ha, hb]

theorem ends_of_full_reverse {s t : Seg} (h : t.full = s.full.reverse) : ends t = (ends s).reverse := by
  unfold ends
  rw [h, List.head?_reverse, List.getLast?_reverse]
  cases s.full.head? <;> cases s.full.getLast? <;> rfl

theorem ends_rev (s : Seg) (a b : P) (h : ends s = [a, b]) : ends s.rev = [b, a] := by
  rw [ends_of_full_reverse (s := s) rfl, h]
  rfl

theorem ends_rev_perm (s : Seg) : (ends s.rev).Perm (ends s) := by
  rw [ends_of_full_reverse (s := s) rfl]
  exact List.reverse_perm _

theorem ends_norm_perm (s : Seg) : (ends (norm s)).Perm (ends s) := by
  cases hr : s.reversed
  · rw [show ends (norm s) = ends s by unfold ends norm; rw [hr]; rfl]
  · rw [ends_of_full_reverse (s := s) (by unfold norm; rw [hr]; rfl)]
    exact List.reverse_perm _

theorem flatMap_ends_map (f : Seg → Seg) (hf : ∀ s, (ends (f s)).Perm (ends s)) (l : List Seg) :
    ((l.map f).flatMap ends).Perm (l.flatMap ends) := by
  rw [List.flatMap_map]
  exact List.perm_flatMap_left l fun s _ => hf s

theorem flatMap_ends_perm_of_norm {l₁ l₂ : List Seg} (h : (l₁.map norm).Perm (l₂.map norm)) :
    (l₁.flatMap ends).Perm (l₂.flatMap ends) :=
  ((flatMap_ends_map norm ends_norm_perm l₁).symm.trans (h.flatMap_right ends)).trans
    (flatMap_ends_map norm ends_norm_perm l₂)

theorem fresh_ends (s : Seg) (h : Fresh s) : ∃ a b, s.line.head? = some a ∧ s.line.getLast? = some b ∧ ends s = [a, b] := by
  have ha := List.head?_eq_some_head h.ne_nil
  have hb := List.getLast?_eq_some_getLast h.ne_nil
  exact ⟨_, _, ha, hb, ends_eq (h.1 ▸ ha) (h.1 ▸ hb)⟩

/-- the two open ends of a growing group -/
def bd (cur : List Seg) : List P :=
  match msFirst cur, msLast cur with
  | some a, some b => [a, b]
  | _, _ => []

theorem chain_bd (cur : List Seg) (hc : Chain cur) : ∃ a b, msFirst cur = some a ∧ msLast cur = some b ∧ bd cur = [a, b] := by
  have hne := lineOf_ne_nil hc
  have h1 : msFirst cur = some ((lineOf cur).head hne) := by rw [msFirst_eq hc]; exact List.head?_eq_some_head hne
  have h2 : msLast cur = some ((lineOf cur).getLast hne) := by rw [msLast_eq hc]; exact List.getLast?_eq_some_getLast hne
  exact ⟨_, _, h1, h2, by simp [bd, h1, h2]⟩

theorem bd_seed (s : Seg) (h : Fresh s) : bd [s] = ends s := by
  obtain ⟨x, y, hx, hy, he⟩ := fresh_ends s h
  simp [bd, msFirst, msLast, hx, hy, he]

theorem msFirst_append {cur : List Seg} (h : cur ≠ []) (l : List Seg) : msFirst (cur ++ l) = msFirst cur := by
  obtain ⟨c, rest, rfl⟩ := List.exists_cons_of_ne_nil h
  rfl

theorem msLast_concat (cur : List Seg) (x : Seg) : msLast (cur ++ [x]) = x.line.getLast? := by
  simp [msLast]

theorem msLast_cons {cur : List Seg} (h : cur ≠ []) (x : Seg) : msLast (x :: cur) = msLast cur := by
  obtain ⟨c, rest, rfl⟩ := List.exists_cons_of_ne_nil h
  simp [msLast, List.getLast?_cons_cons]

theorem bd_append (cur : List Seg) (s : Seg) (hc : Chain cur) (hs : Fresh s) (hm : msLast cur = s.line.head?) :
    ∃ a b y, bd cur = [a, b] ∧ ends s = [b, y] ∧ bd (cur ++ [{ s with line := s.line.tail }]) = [a, y] := by
  obtain ⟨a, b, h1, h2, hb⟩ := chain_bd cur hc
  obtain ⟨x, y, hx, hy, he⟩ := fresh_ends s hs
  obtain rfl : b = x := Option.some.inj (h2.symm.trans (hm.trans hx))
  refine ⟨a, b, y, hb, he, ?_⟩
  have hy' : s.line.tail.getLast? = some y := by
    rw [List.getLast?_tail, if_neg (Nat.ne_of_gt hs.2), hy]
  simp [bd, msFirst_append hc.nonempty, msLast_concat, h1, hy']

theorem bd_prepend (cur : List Seg) (s : Seg) (hc : Chain cur) (hs : Fresh s) (hm : msFirst cur = s.line.getLast?) :
    ∃ a b x, bd cur = [a, b] ∧ ends s = [x, a] ∧ bd ({ s with line := s.line.dropLast } :: cur) = [x, b] := by
  obtain ⟨a, b, h1, h2, hb⟩ := chain_bd cur hc
  obtain ⟨x, y, hx, hy, he⟩ := fresh_ends s hs
  obtain rfl : a = y := Option.some.inj (h1.symm.trans (hm.trans hy))
  refine ⟨a, b, x, hb, he, ?_⟩
  have hx' : s.line.dropLast.head? = some x := by
    rw [List.head?_dropLast, if_pos (show 1 < s.line.length from hs.2), hx]
  simp [bd, msFirst, msLast_cons hc.nonempty, h2, hx']

/-- one successful gluing uses up two open ends at one point, an end of the group and the end of the piece that
    is glued there; the other two are the ends of the new group -/
theorem Glued.bd {cur : List Seg} {s : Seg} {cur' : List Seg} (hc : Chain cur) (hs : Fresh s) (h : Glued cur s cur') :
    ∃ q, (bd cur ++ ends s).Perm (q :: q :: bd cur') := by
  have hends : ∀ t, t = s ∨ t = s.rev → (ends s).Perm (ends t) := by
    rintro t (rfl | rfl)
    · exact .refl _
    · exact (ends_rev_perm s).symm
  cases h with
  | append t ht hm =>
    obtain ⟨a, b, y, hb, he, hbd⟩ := bd_append cur t hc (hs.turned ht) hm
    refine ⟨b, ((hends t ht).append_left _).trans ?_⟩
    rw [hb, he, hbd]
    -- [a, b, b, y] ~ [b, b, a, y]
    exact (List.Perm.swap b a [b, y]).trans ((List.Perm.swap b a [y]).cons b)
  | prepend t ht hm =>
    obtain ⟨a, b, x, hb, he, hbd⟩ := bd_prepend cur t hc (hs.turned ht) hm
    refine ⟨a, ((hends t ht).append_left _).trans ?_⟩
    rw [hb, he, hbd]
    -- [a, b, x, a] ~ [a, a, x, b]
    exact (List.reverse_perm [a, x, b]).cons a

def Paired (l : List P) : Prop := ∀ p, l.count p = 0 ∨ l.count p = 2

/-- `Paired (segs.flatMap ends)` written out: the proofs pass between the two forms without a rewrite -/
def DegR (segs : List Seg) : Prop := ∀ p, (segs.flatMap ends).count p = 0 ∨ (segs.flatMap ends).count p = 2

theorem Paired.perm {l l' : List P} (h : l.Perm l') (hl : Paired l) : Paired l' :=
  fun p => h.count_eq p ▸ hl p

theorem Paired.tail_tail {q : P} {l : List P} (h : Paired (q :: q :: l)) : Paired l := by
  intro p
  have := h p
  rw [List.count_cons, List.count_cons] at this
  by_cases hq : (q == p) = true
  · rw [if_pos hq] at this
    omega
  · rw [if_neg hq] at this
    exact this

theorem Paired.left_of_append {l₁ l₂ : List P} (h : Paired (l₁ ++ l₂)) (h₂ : Paired l₂) : Paired l₁ := by
  intro p
  have h := h p
  have h₂ := h₂ p
  rw [List.count_append] at h
  omega

/-- with every end point shared by exactly two piece ends (the group's two open ends counted in), a group that
    finds no further piece is closed -/
theorem closed_of_no_match {cur segs : List Seg} (hc : Chain cur) (hf : ∀ s ∈ segs, Fresh s)
    (hd : Paired (bd cur ++ segs.flatMap ends)) (hn : findMatch cur segs 0 = none) : msFirst cur = msLast cur := by
  obtain ⟨a, b, h1, h2, hb⟩ := chain_bd cur hc
  have hzero : (segs.flatMap ends).count b = 0 := by
    rw [List.count_eq_zero]
    intro hmem
    obtain ⟨s, hs, hbs⟩ := List.mem_flatMap.mp hmem
    obtain ⟨x, y, hx, hy, he⟩ := fresh_ends s (hf s hs)
    have := findMatch_none cur segs 0 b h2 hn s hs
    rw [hx, hy] at this
    rw [he, List.mem_cons, List.mem_singleton] at hbs
    rcases hbs with rfl | rfl
    · exact this.1 rfl
    · exact this.2 rfl
  -- so the second open end at `b` is the group's own first point
  have hcb := hd b
  rw [hb, List.count_append, hzero, List.count_cons, List.count_cons_self] at hcb
  by_cases c : a = b
  · rw [h1, h2, c]
  · rw [if_neg (by simpa using c)] at hcb
    simp at hcb

theorem grow_paired (f : Nat) (cur segs : List Seg) (hc : Chain cur) (hf : ∀ s ∈ segs, Fresh s)
    (hd : Paired (bd cur ++ segs.flatMap ends)) :
    Chain (grow f cur segs).1 ∧ (∀ s ∈ (grow f cur segs).2, Fresh s) ∧
      Paired (bd (grow f cur segs).1 ++ (grow f cur segs).2.flatMap ends) := by
  refine grow_induct (I := fun c r => Chain c ∧ (∀ s ∈ r, Fresh s) ∧ Paired (bd c ++ r.flatMap ends)) ?_ f cur segs
    ⟨hc, hf, hd⟩
  intro c r k s c' ⟨hc, hf, hd⟩ hs hg
  obtain ⟨q, hq⟩ := hg.bd hc (hf s (List.mem_of_getElem? hs))
  obtain ⟨hc', hf'⟩ := hg.chain_step ⟨hc, hf⟩ hs
  refine ⟨hc', hf', Paired.tail_tail (q := q) (hd.perm ?_)⟩
  -- the ends of `s` leave the remaining pieces and join the group's, where two of the four cancel
  have hr : (r.flatMap ends).Perm (ends s ++ (r.eraseIdx k).flatMap ends) :=
    (perm_eraseIdx_cons r k s hs).flatMap_right ends
  exact (hr.append_left _).trans (by rw [← List.append_assoc]; exact hq.append_right _)

/-- when every end point is shared by exactly two piece ends, each group `Join` builds is closed and meets the
    same condition by itself (so it shares no end point with the other groups) -/
theorem joinAux_closed (f : Nat) (segs : List Seg) (h : segs.length ≤ f) (hf : ∀ s ∈ segs, Fresh s) (hdeg : DegR segs) :
    ∀ ms ∈ joinAux f segs [], msFirst ms = msLast ms ∧ DegR ms := by
  refine joinAux_induct (M := fun segs gs => (∀ s ∈ segs, Fresh s) → DegR segs →
    ∀ ms ∈ gs, msFirst ms = msLast ms ∧ DegR ms) (fun _ _ ms hms => by cases hms) ?_ f segs h hf hdeg
  intro init s gs ih hf hdeg
  have hfs := hf s (by simp)
  have hfi : ∀ x ∈ init, Fresh x := fun x hx => hf x (by simp [hx])
  have hall : Paired (ends s ++ init.flatMap ends) :=
    Paired.perm (by rw [List.flatMap_append, List.flatMap_singleton]; exact List.perm_append_comm) hdeg
  have hseed : Paired (bd [s] ++ init.flatMap ends) := by rw [bd_seed s hfs]; exact hall
  obtain ⟨hch, hfr, hd⟩ := grow_paired (init.length + 1) [s] init (seed_chain s hfs) hfi hseed
  -- growing never stops on an open chain
  have hclosed := (grow_stops _ [s] init (Nat.le_succ _)).elim id (closed_of_no_match hch hfr hd)
  have hp := flatMap_ends_perm_of_norm (grow_perm (init.length + 1) [s] init)
  generalize grow (init.length + 1) [s] init = g at hclosed hch hfr hd hp ih ⊢
  obtain ⟨cur, rest⟩ := g
  -- the closed group's two open ends are one point twice: what is left meets the condition again
  have hrest : DegR rest := by
    obtain ⟨a, b, h1, h2, hb⟩ := chain_bd cur hch
    obtain rfl : a = b := Option.some.inj (h1.symm.trans (hclosed.trans h2))
    rw [hb] at hd
    exact hd.tail_tail
  -- and the group has the ends that the others have not
  have hcur : DegR cur := by
    have := hall.perm hp.symm
    rw [List.flatMap_append] at this
    exact this.left_of_append hrest
  exact List.forall_mem_cons.mpr ⟨⟨hclosed, hcur⟩, ih hfr hrest⟩

/-- the cut-rings condition `degR_of_starts_stops` compares the starts of all pieces with their stops -/
def startOf (s : Seg) : Option P := s.full.head?
def stopOf (s : Seg) : Option P := s.full.getLast?

theorem flatMap_ends_perm_starts_stops (l : List Seg) : ∀ (starts stops : List P), l.map startOf = starts.map some →
    l.map stopOf = stops.map some → (l.flatMap ends).Perm (starts ++ stops) := by
  induction l with
  | nil =>
    intro starts stops h1 h2
    rw [List.map_eq_nil_iff.mp h1.symm, List.map_eq_nil_iff.mp h2.symm]
    exact .refl _
  | cons s rest ih =>
    intro starts stops h1 h2
    obtain ⟨a, st, rfl, ha, h1⟩ := List.map_eq_cons_iff.mp h1.symm
    obtain ⟨b, sp, rfl, hb, h2⟩ := List.map_eq_cons_iff.mp h2.symm
    rw [List.flatMap_cons, ends_eq ha.symm hb.symm]
    exact (((ih st sp h1.symm h2.symm).cons b).trans List.perm_middle.symm).cons a

/-- **the cut-rings condition**: if every cut point is where exactly one piece stops and exactly one starts (what
    cutting vertex-disjoint simple rings into pieces gives), every end point is shared by exactly two piece ends -/
theorem degR_of_starts_stops (segs : List Seg) (starts stops : List P)
    (hs : segs.map startOf = starts.map some) (ht : segs.map stopOf = stops.map some)
    (hperm : starts.Perm stops) (hnd : starts.Nodup) : DegR segs := by
  intro p
  rw [(flatMap_ends_perm_starts_stops segs starts stops hs ht).count_eq p, List.count_append, ← hperm.count_eq p]
  have := List.nodup_iff_count.mp hnd p
  omega

theorem degR_perm (a b : List Seg) (h : a.Perm b) (hd : DegR a) : DegR b :=
  Paired.perm (h.flatMap_right ends) hd

theorem degR_rev (segs : List Seg) (flip : Seg → Bool) (hd : DegR segs) :
    DegR (segs.map fun s => if flip s then s.rev else s) := by
  refine Paired.perm (flatMap_ends_map _ (fun s => ?_) segs).symm hd
  split
  · exact ends_rev_perm s
  · exact .refl _

end OsmVerif.Model.Geo
