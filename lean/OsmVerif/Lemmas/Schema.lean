import OsmVerif.Model.Schema
import OsmVerif.Spec.OsmSchemaPinned
/-! The struct types of the codecs, and that their tags are the pinned vocabulary (shared by C03, C04 and C05). -/
namespace OsmVerif.Model.Schema
open OsmVerif.Gen.Schema OsmVerif.Spec.OsmSchema

def codecTypes : List String :=
  ["Action", "Bounds", "Change", "Changeset", "ChangesetComment", "ChangesetDiscussion", "Diff", "Member", "Node",
   "Note", "NoteComment", "OSM", "Relation", "Tag", "Update", "User", "User.Blocks", "User.Blocks.Received",
   "User.Changesets", "User.Home", "User.Img", "User.Messages", "User.Messages.Received", "User.Messages.Sent",
   "User.Traces", "Way", "WayNode"]

/-- every codec struct carries exactly the pinned tags (names, attr/element, omitempty, paths) -/
theorem schema_eq_pinned :
    structs.filter (fun e => codecTypes.contains e.1) = pinnedStructs.filter (fun e => codecTypes.contains e.1) := by
  decide +kernel

end OsmVerif.Model.Schema
