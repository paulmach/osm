import OsmVerif.Model.PbfCache
/-! What `runCases` and `runChecks` do field by field and check by check, for any tables. Each iterator is set
through `Cache.set` to a value that says both outcomes, so that tables can be run on a message whose optional
columns are left open: one state, not one per combination of columns. -/
namespace OsmVerif.Model.PbfCache
open OsmVerif.Model.Pbf

/-- an optional field of the DenseNodes / DenseInfo message: a canonical writer emits field `n` only when it has the
    column. `outerFields` and `infoFields` are concatenations of these. -/
def optField (n : Nat) (o : Option (List Int)) : List (Nat × Col) :=
  match o with | some c => [(n, c)] | none => []

theorem outerFields_eq (d : Dense) :
    outerFields d = optField 1 (some d.ids) ++ optField 8 (some d.lat) ++ optField 9 (some d.lon) ++ optField 10 d.kv := rfl

theorem infoFields_eq (d : Dense) :
    infoFields d =
      optField 1 d.ver ++ optField 2 d.ts ++ optField 3 d.cs ++ optField 4 d.uid ++ optField 5 d.sid ++ optField 6 d.vis :=
  rfl

theorem Cache.set_get (c : Cache) (it : It) : c.set it (c.get it) = c := by
  cases it <;> rfl

theorem foldl_fixed {α β} (step : β → α → β) (b : β) (h : ∀ a, step b a = b) (l : List α) : l.foldl step b = b := by
  induction l with
  | nil => rfl
  | cons a l ih => rw [List.foldl_cons, h, ih]

theorem foldl_set_get (its : List It) (c : Cache) : its.foldl (fun c it => c.set it (c.get it)) c = c :=
  foldl_fixed _ c (Cache.set_get c) its

theorem runCases_append (cs : List Case) (l₁ l₂ : List (Nat × Col)) (s : St) :
    runCases cs (l₁ ++ l₂) s = runCases cs l₂ (runCases cs l₁ s) := List.foldl_append

theorem runCases_optField (cs : List Case) (n : Nat) (o : Option (List Int)) (s : St) :
    runCases cs (optField n o) s =
      match cs.find? (·.num = n) with
      | none => s
      | some c =>
        ⟨c.iters.foldl (fun ca it => ca.set it (o.or (ca.get it))) s.cache, s.flags ++ if o.isSome then c.flags else []⟩ := by
  cases o with
  | none => cases h : cs.find? (·.num = n) <;> simp [runCases, optField, foldl_set_get]
  | some col => cases h : cs.find? (·.num = n) <;> simp [runCases, optField, h, Cache.setAll]

theorem runChecks_nil (s : St) : runChecks [] s = some s := rfl

theorem runChecks_cons (ch : Check) (chs : List Check) (s : St) :
    runChecks (ch :: chs) s =
      if ch.cond.any (evalAtom s) = true ∧ ch.isError = true then none
      else runChecks chs
        ⟨ch.clears.foldl (fun c it => c.set it (if ch.cond.any (evalAtom s) then none else c.get it)) s.cache, s.flags⟩ := by
  unfold runChecks
  rw [List.foldl_cons]
  by_cases h1 : ch.cond.any (evalAtom s) = true
  · by_cases h2 : ch.isError = true
    · simp only [h1, h2, and_self, if_true]
      exact foldl_fixed _ none (fun _ => rfl) chs
    · simp [h1, h2, Cache.setAll]
  · simp [h1, foldl_set_get]

/-- the value of an iterator that is assigned when its column is there and emptied when it is not -/
theorem ite_none_or {α} (o x : Option α) : (if o = none then none else o.or x) = o := by
  cases o <;> rfl

end OsmVerif.Model.PbfCache
