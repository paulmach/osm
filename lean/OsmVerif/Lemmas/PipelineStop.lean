import OsmVerif.Model.PipelineStop
/-! The cancelled pipeline ends under every schedule: every step lowers the measure `mu` (a decoder's share of it is
`summand`, the reader's, the serializer's and the fairness counter's is `rest`), consistency is kept, and while a
goroutine is alive a step is enabled. -/
namespace OsmVerif.Model.PipelineStop

theorem sumTo_congr (n : Nat) (f g : Nat → Nat) (h : ∀ w, w < n → f w = g w) : sumTo n f = sumTo n g := by
  unfold sumTo
  congr 1
  apply List.map_congr_left
  intro w hw
  exact h w (List.mem_range.mp hw)

theorem sumTo_succ (n : Nat) (f : Nat → Nat) : sumTo (n + 1) f = sumTo n f + f n := by
  simp [sumTo, List.range_succ]

/-- sums of two functions that differ at most at `w` differ by their values there; with the other function's value
    added on either side, since subtraction on `Nat` truncates -/
theorem sumTo_add_of_eq_off (n : Nat) (f g : Nat → Nat) (w : Nat) (hw : w < n) (h : ∀ v, v ≠ w → f v = g v) :
    sumTo n f + g w = sumTo n g + f w := by
  induction n with
  | zero => omega
  | succ k ih =>
    rw [sumTo_succ, sumTo_succ]
    by_cases c : w = k
    · subst c
      have : sumTo w f = sumTo w g := sumTo_congr w f g (fun v hv => h v (by omega))
      omega
    · have := ih (by omega)
      have e : f k = g k := h k (fun e => c e.symm)
      omega

def summand (s : St) (v : Nat) : Nat := wW (s.worker v) + 4 * s.inputs v + 2 * s.outputs v

def rest (s : St) : Nat := rW s.reader + sW s.ser + 2 * s.spurious

theorem mu_eq (n : Nat) (s : St) : mu n s = sumTo n (summand s) + rest s := by
  show rW s.reader + sumTo n (summand s) + sW s.ser + 2 * s.spurious = _
  simp only [rest]
  omega

theorem mu_lt_of_rest (n : Nat) (s s' : St) (hsum : ∀ v, summand s' v = summand s v) (h : rest s' < rest s) :
    mu n s' < mu n s := by
  rw [mu_eq, mu_eq, sumTo_congr n _ _ (fun v _ => hsum v)]
  omega

theorem mu_lt_of_decoder (n w : Nat) (hw : w < n) (s s' : St) (hoth : ∀ v, v ≠ w → summand s v = summand s' v)
    (h : summand s' w + rest s' < summand s w + rest s) : mu n s' < mu n s := by
  have := sumTo_add_of_eq_off n (summand s) (summand s') w hw hoth
  rw [mu_eq, mu_eq]
  omega

theorem step_decreases (n : Nat) (s s' : St) (a : Step) (h : step n s a = some s') : mu n s' < mu n s := by
  -- every step is `if guard then some _ else none`: `hc` below is the guard, `s'` the updated record.
  -- A waiting block counts 4, a waiting result 2, a spurious receive 2; the weights of the program counters are such
  -- that whoever puts one in loses more and whoever takes one out gains less: reader 7, 6 > 1 + 4; decoder
  -- 1 + 4 > 4 > 1 + 2; serializer 2 + 2 > 3 > 2.
  cases a <;> obtain ⟨hc, ⟨⟩⟩ := Option.ite_none_right_eq_some.mp h
  case readerFirstSent =>
    -- reader 7 → 1, one more block waiting for decoder 0 (+4)
    apply mu_lt_of_decoder n 0 hc.2.1 s _ (fun v hv => by simp [summand, upd, hv])
    simp [summand, rest, upd, hc.1, rW]
    omega
  case readerExit =>
    -- reader 1 → 0
    exact mu_lt_of_rest n s _ (fun _ => rfl) (by simp [rest, hc, rW])
  case readerSent w enq =>
    -- reader 6 → 1, at most one more block waiting (+4)
    cases enq
    · exact mu_lt_of_rest n s _ (fun _ => rfl) (by simp [rest, hc.1, rW])
    · apply mu_lt_of_decoder n w hc.2 s _ (fun v hv => by simp [summand, upd, hv])
      simp [summand, rest, upd, hc.1, rW]
      omega
  case workerTake w =>
    -- decoder 1 → 4, one block less waiting (-4)
    apply mu_lt_of_decoder n w hc.1 s _ (fun v hv => by simp [summand, upd, hv])
    simp [summand, rest, upd, hc.2.1, wW]
    omega
  case workerExit w =>
    -- decoder 1 → 0
    apply mu_lt_of_decoder n w hc.1 s _ (fun v hv => by simp [summand, upd, hv])
    simp [summand, rest, upd, hc.2.1, wW]
  case workerSent w enq =>
    -- decoder 4 → 1, at most one more result waiting (+2)
    cases enq
    · apply mu_lt_of_decoder n w hc.1 s _ (fun v hv => by simp [summand, upd, hv])
      simp [summand, rest, upd, hc.2, wW]
    · apply mu_lt_of_decoder n w hc.1 s _ (fun v hv => by simp [summand, upd, hv])
      simp [summand, rest, upd, hc.2, wW]
      omega
  case serDone =>
    -- serializer 2 or 3 → 0
    have hr : rest { s with ser := .done } < rest s := by
      cases hs : s.ser <;> simp_all [rest, sW]
    exact mu_lt_of_rest n s _ (fun _ => rfl) hr
  case serRecv w =>
    -- serializer 2 → 3, one result less waiting (-2)
    apply mu_lt_of_decoder n w hc.2.1 s _ (fun v hv => by simp [summand, upd, hv])
    simp [summand, rest, upd, hc.1, sW]
    omega
  case serRecvClosed w =>
    -- serializer 2 → 3, one spurious receive less (-2)
    have hr : rest { s with ser := .forwarding, spurious := s.spurious - 1 } < rest s := by
      simp [rest, hc.1, sW]
      omega
    exact mu_lt_of_rest n s _ (fun _ => rfl) hr
  case serSent =>
    -- serializer 3 → 2
    exact mu_lt_of_rest n s _ (fun _ => rfl) (by simp [rest, hc, sW])

theorem consistent_step (n : Nat) (s s' : St) (a : Step) (hc : Consistent s) (h : step n s a = some s') : Consistent s' := by
  obtain ⟨c1, c2, c3⟩ := hc
  cases a <;> obtain ⟨hcnd, ⟨⟩⟩ := Option.ite_none_right_eq_some.mp h
  case readerFirstSent | readerSent =>
    exact ⟨fun hr => by simp at hr, fun hr => by simp at hr, c3⟩
  case readerExit =>
    exact ⟨fun _ => rfl, fun hr => by simp at hr, fun hi => by simp at hi⟩
  case workerTake | workerSent =>
    -- the decoder has not returned afterwards
    refine ⟨c1, c2, fun hi w => ?_⟩
    simp only [upd]
    split
    · simp
    · exact c3 hi w
  case workerExit =>
    -- enabled only once the input queues are closed
    refine ⟨c1, fun hr => ?_, fun hi => ?_⟩
    · have := c2 hr; rw [hcnd.2.2.2] at this; cases this
    · rw [hcnd.2.2.2] at hi; cases hi
  -- the serializer's steps change none of the fields concerned
  all_goals exact ⟨c1, c2, c3⟩

theorem progress (n : Nat) (hn : 0 < n) (s : St) (hcs : Consistent s) (h : ¬ allDone n s) : ∃ a, (step n s a).isSome = true := by
  -- who can move: the serializer as long as it lives; after it the reader, wherever it stands; after both a decoder
  by_cases hs : s.ser = .done
  · cases hr : s.reader with
    | first =>
      -- the bare send goes to decoder 0, which has not returned: the input queues are still open
      have h0 := hcs.2.2 (hcs.2.1 hr) 0
      exact ⟨.readerFirstSent, by simp [step, hr, hn, h0]⟩
    | head => exact ⟨.readerExit, by simp [step, hr]⟩
    | sending => exact ⟨.readerSent 0 false, by simp [step, hr, hn]⟩
    | done =>
      -- some decoder is alive
      have : ¬ ∀ w, w < n → s.worker w = .done := fun hw => h ⟨hr, hw, hs⟩
      obtain ⟨w, hw⟩ := Classical.not_forall.mp this
      obtain ⟨hwn, hwd⟩ := Classical.not_imp.mp hw
      cases hc : s.worker w with
      | done => exact absurd hc hwd
      | sending => exact ⟨.workerSent w false, by simp [step, hwn, hc]⟩
      | idle =>
        by_cases hi : 0 < s.inputs w
        · exact ⟨.workerTake w, by simp [step, hwn, hc, hi]⟩
        · have hz : s.inputs w = 0 := by omega
          exact ⟨.workerExit w, by simp [step, hwn, hc, hz, hcs.1 hr]⟩
  · exact ⟨.serDone, by simp [step, hs]⟩

theorem run_bounded (n : Nat) (s s' : St) (as : List Step) (h : Run n s as s') : as.length + mu n s' ≤ mu n s := by
  induction h with
  | nil s => simp
  | cons s s1 s2 a as hstep _ ih =>
    have := step_decreases n s s1 a hstep
    simp only [List.length_cons]
    omega

theorem consistent_run (n : Nat) (s s' : St) (as : List Step) (hc : Consistent s) (h : Run n s as s') : Consistent s' := by
  induction h with
  | nil s => exact hc
  | cons s s1 s2 a as hstep _ ih => exact ih (consistent_step n s s1 a hc hstep)

theorem maximal_run_ends (n : Nat) (hn : 0 < n) (s s' : St) (as : List Step) (hc : Consistent s) (h : Run n s as s')
    (hmax : ∀ a, step n s' a = none) : allDone n s' := by
  apply Classical.byContradiction
  intro hnd
  obtain ⟨a, hs⟩ := progress n hn s' (consistent_run n s s' as hc h) hnd
  rw [hmax a] at hs
  cases hs

end OsmVerif.Model.PipelineStop
