import OsmVerif.Model.PbfScan
/-! The string test with which `Model.PbfScan` reads the regenerated statement lists, as core's. -/
namespace OsmVerif.Model.PbfScan

/-- `hasPrefix` is core's `String.startsWith`. The model compares character lists, and the kernel decodes a
    string literal to its character list in time quadratic in its length; `startsWith` compares the UTF-8 bytes.
    Rewrite with this before a closed fact about a statement list is evaluated. -/
theorem hasPrefix_eq_startsWith (pre s : String) : hasPrefix pre s = s.startsWith pre := by
  rw [Bool.eq_iff_iff, String.startsWith_string_iff, hasPrefix, List.isPrefixOf_iff_prefix]

end OsmVerif.Model.PbfScan
