import OsmVerif.Model.Annotate
import OsmVerif.Lemmas.List
/-! Sorting the update lists: the key comparison is the lexicographic order on the vectors of key
values, hence a strict order; insertion sort yields a sorted permutation. (That a sorted permutation is unique
when incomparable elements are equal is `List.Perm.eq_of_pairwise`.) -/
namespace OsmVerif.Model.Annotate

theorem keyLess_iff_lex (keys : List String) (a b : Update) :
    keyLess keys a b = true ↔ keys.map (fun k => keyOf k a) < keys.map (fun k => keyOf k b) := by
  induction keys with
  | nil => simp [keyLess]
  | cons k rest ih =>
    rw [keyLess, List.map_cons, List.map_cons, List.cons_lt_cons_iff, ← ih]
    rcases Int.lt_trichotomy (keyOf k a) (keyOf k b) with h | h | h
    · simp [h]
    · simp [h]
    · simp [h, Int.lt_asymm h, Int.ne_of_gt h]

theorem keyLess_asymm (keys : List String) (a b : Update) (h : keyLess keys a b = true) : keyLess keys b a = false :=
  Bool.eq_false_iff.mpr fun h' => List.lt_asymm ((keyLess_iff_lex keys a b).mp h) ((keyLess_iff_lex keys b a).mp h')

theorem keyLess_trans (keys : List String) (a b c : Update) (h1 : keyLess keys a b = true) (h2 : keyLess keys b c = true) :
    keyLess keys a c = true :=
  (keyLess_iff_lex keys a c).mpr (List.lt_trans ((keyLess_iff_lex keys a b).mp h1) ((keyLess_iff_lex keys b c).mp h2))

def SortedBy (less : Update → Update → Bool) (l : List Update) : Prop :=
  l.Pairwise (fun a b => less b a = false)

theorem insertSorted_perm (less : Update → Update → Bool) (u : Update) (l : List Update) :
    (insertSorted less u l).Perm (u :: l) :=
  List.perm_of_ins (ins := insertSorted less) (fun _ => rfl) (fun _ _ _ => rfl) u l

theorem sortBy_perm (less : Update → Update → Bool) (l : List Update) : (sortBy less l).Perm l :=
  List.foldl_prefix_induction (motive := fun acc done => acc.Perm done) (.refl _)
    (fun acc done u h =>
      (insertSorted_perm less u acc).trans ((h.cons u).trans (List.perm_append_singleton u done).symm)) l

theorem insertSorted_sorted (less : Update → Update → Bool)
    (asymm : ∀ a b, less a b = true → less b a = false)
    (trans : ∀ a b c, less a b = true → less b c = true → less a c = true)
    (u : Update) (l : List Update) (h : SortedBy less l) : SortedBy less (insertSorted less u l) :=
  List.pairwise_of_ins (ins := insertSorted less) (fun _ => rfl) (fun _ _ _ => rfl) asymm (fun _ _ => Bool.eq_false_iff.mpr)
    -- `less x y` and "`z` not before `y`" give "`z` not before `x`": else `z` would be before `y` by transitivity
    (fun x y z hxy hzy => Bool.eq_false_iff.mpr fun hzx => by rw [trans z x y hzx hxy] at hzy; cases hzy) u h

theorem sortBy_sorted (less : Update → Update → Bool)
    (asymm : ∀ a b, less a b = true → less b a = false)
    (trans : ∀ a b c, less a b = true → less b c = true → less a c = true)
    (l : List Update) : SortedBy less (sortBy less l) :=
  List.foldlRecOn l _ List.Pairwise.nil fun acc h u _ => insertSorted_sorted less asymm trans u acc h

end OsmVerif.Model.Annotate
