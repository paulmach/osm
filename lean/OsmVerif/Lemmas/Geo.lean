import OsmVerif.Model.Geo
/-! The `mputil.Join` model: every input segment ends up in exactly one output (possibly reversed), and gluing at
shared end points preserves every edge. Then the signed area: turning a closed ring around negates it. -/
namespace OsmVerif.Model.Geo

def edges : List P → List (P × P)
  | [] => []
  | [_] => []
  | a :: b :: rest => (a, b) :: edges (b :: rest)

/-- the segment as it entered `Join`, direction undone: identity of a segment up to reversal and trimming -/
def norm (s : Seg) : Seg :=
  let f := if s.reversed then s.full.reverse else s.full
  { idx := s.idx, orientation := s.orientation, reversed := false, line := f, full := f }

theorem norm_rev (s : Seg) : norm s.rev = norm s := by
  unfold norm Seg.rev
  cases s.reversed <;> simp

theorem norm_trim (s : Seg) (l : List P) : norm { s with line := l } = norm s := rfl

theorem edges_cons_cons (a b : P) (t : List P) : edges (a :: b :: t) = (a, b) :: edges (b :: t) := rfl

/-- `Join` trims the shared end point from the piece it adds: the glued line has the edges of both, nothing else -/
theorem edges_glue (p : List P) (x : P) (q : List P) : edges (p ++ x :: q) = edges (p ++ [x]) ++ edges (x :: q) := by
  fun_induction edges p with
  | case1 => rfl
  | case2 y => rfl
  | case3 y z t ih => exact congrArg ((y, z) :: ·) ih

theorem edges_length (l : List P) : (edges l).length = l.length - 1 := by
  fun_induction edges l with
  | case1 => rfl
  | case2 a => rfl
  | case3 a b t ih => rw [List.length_cons, ih]; rfl

theorem edges_reverse_length (l : List P) : (edges l.reverse).length = (edges l).length := by
  rw [edges_length, edges_length, List.length_reverse]

/-- a segment still waiting in the list -/
def Fresh (s : Seg) : Prop := s.line = s.full ∧ 2 ≤ s.line.length

theorem fresh_rev (s : Seg) (h : Fresh s) : Fresh s.rev :=
  ⟨congrArg List.reverse h.1, (List.length_reverse (as := s.line)).symm ▸ h.2⟩

theorem Fresh.ne_nil {s : Seg} (h : Fresh s) : s.line ≠ [] :=
  List.ne_nil_of_length_pos (Nat.lt_of_lt_of_le Nat.zero_lt_two h.2)

theorem Fresh.turned {s t : Seg} (hs : Fresh s) (ht : t = s ∨ t = s.rev) : Fresh t := by
  rcases ht with rfl | rfl
  · exact hs
  · exact fresh_rev s hs

/-- the invariant of the growing group -/
structure Chain (cur : List Seg) : Prop where
  nonempty : cur ≠ []
  pieces : ∀ s ∈ cur, s.line ≠ []
  fulls : ∀ s ∈ cur, 2 ≤ s.full.length
  edges_eq : (edges (lineOf cur)).Perm (cur.flatMap (fun s => edges s.full))

theorem lineOf_cons (s : Seg) (cur : List Seg) : lineOf (s :: cur) = s.line ++ lineOf cur := rfl

theorem lineOf_concat (cur : List Seg) (s : Seg) : lineOf (cur ++ [s]) = lineOf cur ++ s.line := by simp [lineOf]

theorem lineOf_ne_nil {cur : List Seg} (h : Chain cur) : lineOf cur ≠ [] := by
  obtain ⟨s, rest, rfl⟩ := List.exists_cons_of_ne_nil h.nonempty
  exact List.append_ne_nil_of_left_ne_nil (h.pieces s List.mem_cons_self) _

theorem msLast_eq {cur : List Seg} (h : Chain cur) : msLast cur = (lineOf cur).getLast? := by
  obtain ⟨init, l, rfl⟩ : ∃ init l, cur = init ++ [l] := ⟨_, _, (List.dropLast_concat_getLast h.nonempty).symm⟩
  have hl := h.pieces l (by simp)
  simp [msLast, lineOf, List.getLast?_eq_some_getLast hl]

theorem msFirst_eq {cur : List Seg} (h : Chain cur) : msFirst cur = (lineOf cur).head? := by
  obtain ⟨s, rest, rfl⟩ := List.exists_cons_of_ne_nil h.nonempty
  have hs := h.pieces s (by simp)
  simp [msFirst, lineOf, List.head?_eq_some_head hs]

theorem seed_chain (s : Seg) (h : Fresh s) : Chain [s] where
  nonempty := List.cons_ne_nil s []
  pieces := List.forall_mem_singleton.mpr h.ne_nil
  fulls := List.forall_mem_singleton.mpr (h.1 ▸ h.2)
  edges_eq := by simp [lineOf, h.1]

theorem chain_append (cur : List Seg) (s : Seg) (hc : Chain cur) (hs : Fresh s)
    (hm : msLast cur = s.line.head?) : Chain (cur ++ [{ s with line := s.line.tail }]) := by
  have ht : s.line.tail ≠ [] :=
    List.ne_nil_of_length_pos (by have := hs.2; rw [List.length_tail]; omega)
  have hl := (List.cons_head_tail hs.ne_nil).symm
  generalize s.line.tail = q, s.line.head hs.ne_nil = a at hl ht
  obtain ⟨p, hp⟩ : ∃ p, lineOf cur = p ++ [a] := by
    rw [← List.getLast?_eq_some_iff, ← msLast_eq hc, hm, hl]
    rfl
  refine ⟨by simp, ?_, ?_, ?_⟩
  · exact List.forall_mem_append.mpr ⟨hc.pieces, List.forall_mem_singleton.mpr ht⟩
  · exact List.forall_mem_append.mpr ⟨hc.fulls, List.forall_mem_singleton.mpr (hs.1 ▸ hs.2)⟩
  · rw [lineOf_concat, hp, List.append_assoc, List.singleton_append, edges_glue, ← hp, ← hl, hs.1,
      List.flatMap_append, List.flatMap_singleton]
    exact hc.edges_eq.append_right _

theorem chain_prepend (cur : List Seg) (s : Seg) (hc : Chain cur) (hs : Fresh s)
    (hm : msFirst cur = s.line.getLast?) : Chain ({ s with line := s.line.dropLast } :: cur) := by
  have hd : s.line.dropLast ≠ [] :=
    List.ne_nil_of_length_pos (by have := hs.2; rw [List.length_dropLast]; omega)
  have hl := (List.dropLast_concat_getLast hs.ne_nil).symm
  generalize s.line.dropLast = d, s.line.getLast hs.ne_nil = z at hl hd
  obtain ⟨q, hq⟩ : ∃ q, lineOf cur = z :: q := by
    rw [← List.head?_eq_some_iff, ← msFirst_eq hc, hm, hl]
    simp
  refine ⟨by simp, ?_, ?_, ?_⟩
  · exact List.forall_mem_cons.mpr ⟨hd, hc.pieces⟩
  · exact List.forall_mem_cons.mpr ⟨hs.1 ▸ hs.2, hc.fulls⟩
  · rw [lineOf_cons, hq, edges_glue, ← hq, ← hl, hs.1]
    exact hc.edges_eq.append_left _

theorem head?_reverse (l : List P) : l.reverse.head? = l.getLast? := List.head?_reverse
theorem getLast?_reverse (l : List P) : l.reverse.getLast? = l.head? := List.getLast?_reverse

/-- what one successful test of `mputil.Join`'s innermost loop does with the candidate `s`: `cur'` is `cur` with `s`,
    as it is or turned around, put at the end (where it starts at the group's last point) or at the start (where it
    ends at the group's first point), trimmed of the shared point. The code's four `if … else if` cases are these
    two shapes for the two directions. -/
inductive Glued (cur : List Seg) (s : Seg) : List Seg → Prop
  | append (t : Seg) (ht : t = s ∨ t = s.rev) (hm : msLast cur = t.line.head?) :
      Glued cur s (cur ++ [{ t with line := t.line.tail }])
  | prepend (t : Seg) (ht : t = s ∨ t = s.rev) (hm : msFirst cur = t.line.getLast?) :
      Glued cur s ({ t with line := t.line.dropLast } :: cur)

theorem findMatch_some (cur segs : List Seg) (i j : Nat) (cur' : List Seg) (h : findMatch cur segs i = some (j, cur')) :
    ∃ k s, j = i + k ∧ segs[k]? = some s ∧ Glued cur s cur' := by
  fun_induction findMatch cur segs i with
  | case1 i => cases h
  | case2 s rest i last h1 =>
    cases h
    exact ⟨0, s, rfl, rfl, .append s (.inl rfl) h1.2⟩
  | case3 s rest i last _ h2 =>
    cases h
    exact ⟨0, s, rfl, rfl, .append s.rev (.inr rfl) (h2.2.trans List.head?_reverse.symm)⟩
  | case4 s rest i first last _ _ h3 =>
    cases h
    exact ⟨0, s, rfl, rfl, .prepend s (.inl rfl) h3.2⟩
  | case5 s rest i first last _ _ _ h4 =>
    cases h
    exact ⟨0, s, rfl, rfl, .prepend s.rev (.inr rfl) (h4.2.trans List.getLast?_reverse.symm)⟩
  | case6 s rest i first last _ _ _ _ ih =>
    obtain ⟨k, s', hk, hs', hg⟩ := ih h
    exact ⟨k + 1, s', by omega, hs', hg⟩

theorem findMatch_zero {cur segs : List Seg} {i : Nat} {cur' : List Seg} (h : findMatch cur segs 0 = some (i, cur')) :
    ∃ s, segs[i]? = some s ∧ Glued cur s cur' := by
  obtain ⟨k, s, hk, hs, hg⟩ := findMatch_some cur segs 0 i cur' h
  rw [Nat.zero_add] at hk
  subst hk
  exact ⟨s, hs, hg⟩

/-- a segment with an end at the group's last point can always be glued on -/
theorem findMatch_none (cur segs : List Seg) (i : Nat) (b : P) (hb : msLast cur = some b)
    (h : findMatch cur segs i = none) : ∀ s ∈ segs, s.line.head? ≠ some b ∧ s.line.getLast? ≠ some b := by
  have hl : (msLast cur).isSome = true := by rw [hb]; rfl
  fun_induction findMatch cur segs i with
  | case1 i => intro s hs; cases hs
  | case2 => cases h
  | case3 => cases h
  | case4 => cases h
  | case5 => cases h
  | case6 s rest i first last h1 h2 _ _ ih =>
    intro x hx
    rcases List.mem_cons.mp hx with rfl | hx
    · exact ⟨fun e => h1 ⟨hl, hb.trans e.symm⟩, fun e => h2 ⟨hl, hb.trans e.symm⟩⟩
    · exact ih h x hx

theorem Glued.perm {cur : List Seg} {s : Seg} {cur' : List Seg} (h : Glued cur s cur') :
    (cur'.map norm).Perm (norm s :: cur.map norm) := by
  have hnorm : ∀ t, t = s ∨ t = s.rev → norm t = norm s := by
    rintro t (rfl | rfl)
    · rfl
    · exact norm_rev s
  cases h with
  | append t ht _ =>
    rw [List.map_append, List.map_singleton, norm_trim, hnorm t ht]
    exact List.perm_append_singleton _ _
  | prepend t ht _ => rw [List.map_cons, norm_trim, hnorm t ht]

theorem Glued.chain {cur : List Seg} {s : Seg} {cur' : List Seg} (hc : Chain cur) (hs : Fresh s)
    (h : Glued cur s cur') : Chain cur' := by
  cases h with
  | append t ht hm => exact chain_append cur t hc (hs.turned ht) hm
  | prepend t ht hm => exact chain_prepend cur t hc (hs.turned ht) hm

theorem perm_eraseIdx_cons {α} (l : List α) (k : Nat) (a : α) (h : l[k]? = some a) :
    l.Perm (a :: l.eraseIdx k) := by
  induction l generalizing k with
  | nil => cases h
  | cons x xs ih =>
    cases k with
    | zero =>
      cases h
      exact .refl _
    | succ k => exact ((ih k h).cons x).trans (.swap a x _)

/-- a relation between the group and the segments left that every successful gluing preserves still holds when
    `grow` stops, whatever the fuel -/
theorem grow_induct {I : List Seg → List Seg → Prop}
    (step : ∀ cur segs k s cur', I cur segs → segs[k]? = some s → Glued cur s cur' → I cur' (segs.eraseIdx k))
    (f : Nat) (cur segs : List Seg) (h : I cur segs) : I (grow f cur segs).1 (grow f cur segs).2 := by
  fun_induction grow f cur segs with
  | case1 => exact h
  | case2 => exact h
  | case3 => exact h
  | case4 f cur segs _ i cur' hm ih =>
    obtain ⟨s, hs, hg⟩ := findMatch_zero hm
    exact ih (step cur segs i s cur' h hs hg)

theorem grow_perm (f : Nat) (cur segs : List Seg) :
    (((grow f cur segs).1 ++ (grow f cur segs).2).map norm).Perm ((cur ++ segs).map norm) := by
  refine grow_induct (I := fun c r => ((c ++ r).map norm).Perm ((cur ++ segs).map norm)) ?_ f cur segs (List.Perm.refl _)
  intro c r k s c' h hs hg
  have hr : (r.map norm).Perm (norm s :: (r.eraseIdx k).map norm) := (perm_eraseIdx_cons r k s hs).map norm
  rw [List.map_append] at h ⊢
  -- `norm s` passes from the segments left to the group
  exact ((hg.perm.append_right _).trans (List.perm_middle.symm.trans (hr.symm.append_left _))).trans h

theorem grow_length_le (f : Nat) (cur segs : List Seg) : (grow f cur segs).2.length ≤ segs.length := by
  refine grow_induct (I := fun _ r => r.length ≤ segs.length) ?_ f cur segs (Nat.le_refl _)
  intro c r k s c' h _ _
  exact Nat.le_trans (List.eraseIdx_sublist r k).length_le h

theorem Glued.chain_step {c r : List Seg} {k : Nat} {s : Seg} {c' : List Seg} (hg : Glued c s c')
    (h : Chain c ∧ ∀ x ∈ r, Fresh x) (hs : r[k]? = some s) : Chain c' ∧ ∀ x ∈ r.eraseIdx k, Fresh x :=
  ⟨hg.chain h.1 (h.2 s (List.mem_of_getElem? hs)), fun x hx => h.2 x ((List.eraseIdx_sublist _ _).subset hx)⟩

theorem grow_chain (f : Nat) (cur segs : List Seg) (hc : Chain cur) (hf : ∀ s ∈ segs, Fresh s) :
    Chain (grow f cur segs).1 ∧ ∀ s ∈ (grow f cur segs).2, Fresh s :=
  grow_induct (I := fun c r => Chain c ∧ ∀ s ∈ r, Fresh s) (fun _ _ _ _ _ h hs hg => hg.chain_step h hs) f cur segs
    ⟨hc, hf⟩

/-- with the fuel `Join` gives it a group stops growing only because it is closed or no remaining segment touches
    either end (in particular when none remains) -/
theorem grow_stops (f : Nat) (cur segs : List Seg) (hf : segs.length ≤ f) :
    msFirst (grow f cur segs).1 = msLast (grow f cur segs).1 ∨
      findMatch (grow f cur segs).1 (grow f cur segs).2 0 = none := by
  -- not by `grow_induct`, which holds whatever the fuel: this is false when the fuel runs out early. The induction
  -- carries `hf` through each gluing (case 4), so that out of fuel (case 1) nothing is left
  fun_induction grow f cur segs with
  | case1 cur segs =>
    obtain rfl := List.eq_nil_of_length_eq_zero (Nat.le_zero.mp hf)
    exact Or.inr rfl
  | case2 f cur segs hstop =>
    rcases hstop with rfl | hclosed
    · exact Or.inr rfl
    · exact Or.inl hclosed
  | case3 f cur segs _ hnone => exact Or.inr hnone
  | case4 f cur segs _ i cur' hm ih =>
    obtain ⟨s, hs, _⟩ := findMatch_zero hm
    apply ih
    rw [List.length_eraseIdx_of_lt (List.getElem?_eq_some_iff.mp hs).1]
    exact Nat.sub_le_of_le_add hf

theorem joinAux_acc : ∀ f segs acc, joinAux f segs acc = acc ++ joinAux f segs [] := by
  intro f
  induction f with
  | zero => intro segs acc; simp [joinAux]
  | succ f ih =>
    intro segs acc
    unfold joinAux
    split
    · simp
    · simp only []
      rw [ih _ (acc ++ _), ih _ ([] ++ _)]
      simp

theorem joinAux_concat (f : Nat) (init : List Seg) (s : Seg) :
    joinAux (f + 1) (init ++ [s]) [] =
      (grow (init.length + 1) [s] init).1 :: joinAux f (grow (init.length + 1) [s] init).2 [] := by
  rw [joinAux, List.getLast?_concat]
  simp only [List.length_append, List.length_singleton, List.dropLast_concat, List.nil_append]
  exact joinAux_acc _ _ _

/-- induction over the groups `Join` builds, as a relation `M` between the segments still to be joined and the
    groups made of them. The fuel is dealt with here once: `grow` never returns more than it was given. -/
theorem joinAux_induct {M : List Seg → List (List Seg) → Prop} (nil : M [] [])
    (step : ∀ init s gs, M (grow (init.length + 1) [s] init).2 gs →
      M (init ++ [s]) ((grow (init.length + 1) [s] init).1 :: gs)) :
    ∀ f segs, segs.length ≤ f → M segs (joinAux f segs []) := by
  intro f
  induction f with
  | zero =>
    intro segs h
    obtain rfl := List.eq_nil_of_length_eq_zero (Nat.le_zero.mp h)
    exact nil
  | succ f ih =>
    intro segs h
    rcases List.eq_nil_or_concat segs with rfl | ⟨init, s, rfl⟩
    · exact nil
    · rw [List.concat_eq_append] at h ⊢
      rw [joinAux_concat]
      rw [List.length_append, List.length_singleton] at h
      exact step init s _ (ih _ (Nat.le_trans (grow_length_le _ _ _) (Nat.le_of_succ_le_succ h)))

theorem joinAux_perm (f : Nat) (segs : List Seg) (h : segs.length ≤ f) :
    (((joinAux f segs []).flatten).map norm).Perm (segs.map norm) := by
  refine joinAux_induct (M := fun segs gs => ((gs.flatten).map norm).Perm (segs.map norm)) (List.Perm.refl _) ?_ f segs h
  intro init s gs ih
  have hp := grow_perm (init.length + 1) [s] init
  simp only [List.flatten_cons, List.map_append] at hp ⊢
  exact ((ih.append_left _).trans hp).trans List.perm_append_comm

theorem joinAux_chain (f : Nat) (segs : List Seg) (h : segs.length ≤ f) (hf : ∀ s ∈ segs, Fresh s) :
    ∀ ms ∈ joinAux f segs [], Chain ms := by
  refine joinAux_induct (M := fun segs gs => (∀ s ∈ segs, Fresh s) → ∀ ms ∈ gs, Chain ms)
    (fun _ ms hms => by cases hms) ?_ f segs h hf
  intro init s gs ih hf
  have hg := grow_chain (init.length + 1) [s] init (seed_chain s (hf s (by simp))) (fun x hx => hf x (by simp [hx]))
  exact List.forall_mem_cons.mpr ⟨hg.1, ih hg.2⟩

/-- one shoelace term relative to the offset `o` -/
def cr (o : P) (e : P × P) : Int := (e.1.1 - o.1) * (e.2.2 - o.2) - (e.2.1 - o.1) * (e.1.2 - o.2)

theorem area2_go_eq (o : P) : ∀ l prev acc, area2.go o prev l acc = acc + ((edges (prev :: l)).map (cr o)).sum := by
  intro l
  induction l with
  | nil => intro prev acc; simp [area2.go, edges]
  | cons p rest ih =>
    intro prev acc
    simp only [area2.go, edges_cons_cons, List.map_cons, List.sum_cons]
    rw [ih]
    simp only [cr]
    omega

theorem area2_eq (l : List P) (o : P) (h : l.head? = some o) : area2 l = ((edges l).map (cr o)).sum := by
  cases l with
  | nil => cases h
  | cons a t =>
    cases Option.some.inj h
    have hself : cr o (o, o) = 0 := by simp [cr]
    unfold area2
    simp only
    rw [area2_go_eq]
    simp [edges_cons_cons, hself]

theorem edges_reverse (l : List P) : edges l.reverse = (edges l).reverse.map (fun e => (e.2, e.1)) := by
  fun_induction edges l with
  | case1 => rfl
  | case2 a => rfl
  | case3 a b t ih =>
    rw [List.reverse_cons, List.reverse_cons, List.append_assoc, List.singleton_append, edges_glue,
      ← List.reverse_cons, ih]
    simp [edges]

theorem cr_swap (o : P) (e : P × P) : cr o (e.2, e.1) = - cr o e := by
  simp only [cr]; omega

theorem sum_map_neg {α : Type} (f : α → Int) (l : List α) : (l.map (fun e => - f e)).sum = - (l.map f).sum := by
  induction l with
  | nil => rfl
  | cons x xs ih => simp only [List.map_cons, List.sum_cons, ih]; omega

/-- **reversing a closed ring negates its signed area**: the same edges run the other way, from the same first point -/
theorem area2_reverse_closed (l : List P) (o : P) (hh : l.head? = some o) (hl : l.getLast? = some o) :
    area2 l.reverse = - area2 l := by
  rw [area2_eq l.reverse o (by rw [List.head?_reverse]; exact hl), area2_eq l o hh, edges_reverse, List.map_map,
    List.map_reverse, List.sum_reverse_int]
  simp only [Function.comp_def, cr_swap]
  exact sum_map_neg (cr o) (edges l)

theorem ringOrientation_eq_sign (r : List P) : ringOrientation r = (area2 r).sign := by
  unfold ringOrientation
  simp only []
  by_cases h1 : area2 r > 0
  · rw [if_pos h1, Int.sign_eq_one_of_pos h1]
  · by_cases h2 : area2 r < 0
    · rw [if_neg h1, if_pos h2, Int.sign_eq_neg_one_of_neg h2]
    · rw [if_neg h1, if_neg h2, show area2 r = 0 by omega]
      rfl

theorem ringOrientation_reverse_closed (r : List P) (hne : r ≠ []) (hclosed : r.head? = r.getLast?) :
    ringOrientation r.reverse = - ringOrientation r := by
  obtain ⟨p, t, rfl⟩ := List.exists_cons_of_ne_nil hne
  rw [ringOrientation_eq_sign, ringOrientation_eq_sign, area2_reverse_closed (p :: t) p rfl hclosed.symm, Int.sign_neg]

theorem ringOrientation_cases (r : List P) (harea : area2 r ≠ 0) : ringOrientation r = 1 ∨ ringOrientation r = -1 := by
  rw [ringOrientation_eq_sign, Int.sign_eq_one_iff_pos, Int.sign_eq_neg_one_iff_neg]
  omega

theorem neg_eq_iff_ne {a o : Int} (ha : a = 1 ∨ a = -1) (ho : o = 1 ∨ o = -1) : -a = o ↔ a ≠ o := by
  rcases ha with rfl | rfl <;> rcases ho with rfl | rfl <;> decide

/-- `Ring(o)` and osmgeojson's `reorient` alike: a closed ring with area, turned around unless it already winds as asked -/
theorem ringOrientation_reorient (r : List P) (o : Int) (ho : o = 1 ∨ o = -1) (hne : r ≠ []) (hclosed : r.head? = r.getLast?)
    (harea : area2 r ≠ 0) : ringOrientation (if ringOrientation r ≠ o then r.reverse else r) = o := by
  split
  · next hor =>
    rw [ringOrientation_reverse_closed r hne hclosed]
    exact (neg_eq_iff_ne (ringOrientation_cases r harea) ho).mpr hor
  · next hor => exact Decidable.not_not.mp hor

theorem msOrientation_cases (ms : List Seg) : msOrientation ms = 1 ∨ msOrientation ms = -1 := by
  unfold msOrientation
  split
  · exact Or.inl rfl
  · exact Or.inr rfl

/-- `MultiSegment.Orientation` and `orb.Ring.Orientation` differ only on a line that encloses no area -/
theorem ringOrientation_lineOf (ms : List Seg) (harea : area2 (lineOf ms) ≠ 0) :
    ringOrientation (lineOf ms) = msOrientation ms := by
  unfold msOrientation
  rw [ringOrientation_eq_sign]
  split
  · exact Int.sign_eq_one_of_pos ‹_›
  · exact Int.sign_eq_neg_one_of_neg (by omega)

theorem ringOf_unoriented {ms : List Seg} (h : ∀ s ∈ ms, s.orientation = 0) (o : Int) :
    ringOf ms o = if ringOrientation (lineOf ms) ≠ o then (lineOf ms).reverse else lineOf ms := by
  have hany : ms.any (fun s => decide (s.orientation ≠ 0)) = false :=
    List.any_eq_false.mpr fun s hs => by simp [h s hs]
  unfold ringOf
  simp only [hany, Bool.false_eq_true, false_and, not_false_eq_true, true_and, false_or]

end OsmVerif.Model.Geo
