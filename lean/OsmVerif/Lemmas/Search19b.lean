import OsmVerif.Lemmas.Search19
/-! Counting requests of the state search: a bound that is a SUM of a logarithm of the range and a multiple of
the missing files in it (`findInRangeL_sum_bound`), and the ascent of `findBound`. -/
namespace OsmVerif.Model.Search

/-- the ceiling of log₂: the least `k` with `n ≤ 2 ^ k` (`clog_le_iff`) -/
def clog (n : Nat) : Nat := if n ≤ 1 then 0 else (n - 1).log2 + 1

theorem clog_le_iff (n k : Nat) : clog n ≤ k ↔ n ≤ 2 ^ k := by
  unfold clog
  by_cases h : n ≤ 1
  · rw [if_pos h]
    exact iff_of_true (Nat.zero_le k) (Nat.le_trans h Nat.one_le_two_pow)
  · rw [if_neg h, Nat.add_one_le_iff, Nat.log2_lt (by omega), Nat.lt_iff_add_one_le, Nat.sub_add_cancel (by omega)]

theorem clog_mono (x y : Nat) (h : x ≤ y) : clog x ≤ clog y :=
  (clog_le_iff x _).mpr (Nat.le_trans h ((clog_le_iff y _).mp (Nat.le_refl _)))

theorem clog_le_pred (n : Nat) : clog n ≤ n - 1 :=
  (clog_le_iff n (n - 1)).mpr (by have := @Nat.lt_two_pow_self (n - 1); omega)

/-- halving (rounded up) lowers the ceiling logarithm by one -/
theorem clog_succ_le (x y : Nat) (hx : 1 ≤ x) (hxy : x < y) (h : 2 * x ≤ y + 1) : clog x + 1 ≤ clog y := by
  have hy := (clog_le_iff y (clog y)).mp (Nat.le_refl _)
  cases hk : clog y with
  | zero => rw [hk] at hy; simp at hy; omega
  | succ k =>
    rw [hk, Nat.pow_succ] at hy
    have := (clog_le_iff x k).mpr (by omega)
    omega

theorem clog_half (e : Nat) (h : 2 ≤ e) : clog ((e + 1) / 2) + 1 ≤ clog e :=
  clog_succ_le ((e + 1) / 2) e (by omega) (by omega) (by omega)

/-- number of missing files among `a, a+1, …, a+k-1` -/
def missingFrom (av : Avail) : Nat → Nat → Nat
  | _, 0 => 0
  | a, k + 1 => (if (av a).isNone then 1 else 0) + missingFrom av (a + 1) k

theorem missingFrom_add (av : Avail) (a j k : Nat) :
    missingFrom av a (j + k) = missingFrom av a j + missingFrom av (a + j) k := by
  induction j generalizing a with
  | zero => simp [missingFrom]
  | succ j ih =>
    rw [show j + 1 + k = (j + k) + 1 by omega, missingFrom, missingFrom, ih (a + 1),
      show a + 1 + j = a + (j + 1) by omega, Nat.add_assoc]

theorem missingFrom_all (av : Avail) (a k : Nat) (h : ∀ j, a ≤ j → j < a + k → av j = none) :
    missingFrom av a k = k := by
  induction k generalizing a with
  | zero => rfl
  | succ k ih =>
    rw [missingFrom, ih (a + 1) (fun j h1 h2 => h j (by omega) (by omega)), h a (Nat.le_refl _) (by omega)]
    exact Nat.add_comm _ _

theorem missingFrom_full (av : Avail) (hfull : ∀ n, ∃ ts, av n = some ts) (a k : Nat) : missingFrom av a k = 0 := by
  induction k generalizing a with
  | zero => rfl
  | succ k ih =>
    obtain ⟨ts, hts⟩ := hfull a
    rw [missingFrom, ih, hts]; rfl

theorem missingFrom_le (av : Avail) (a k : Nat) : missingFrom av a k ≤ k := by
  induction k generalizing a with
  | zero => simp [missingFrom]
  | succ k ih => rw [missingFrom]; have := ih (a + 1); split <;> omega

/-- missing files strictly between `lo` and `hi` -/
def missing (av : Avail) (lo hi : Nat) : Nat := missingFrom av (lo + 1) (hi - lo - 1)

theorem missing_split (av : Avail) (lo s hi : Nat) (h1 : lo < s) (h2 : s < hi) (ts : Int) (hs : av s = some ts) :
    missing av lo hi = missing av lo s + missing av s hi := by
  unfold missing
  rw [show hi - lo - 1 = (s - lo - 1) + ((hi - s - 1) + 1) by omega, missingFrom_add,
    show lo + 1 + (s - lo - 1) = s by omega, missingFrom, hs]
  exact congrArg _ (Nat.zero_add _)

theorem missing_all (av : Avail) (lo hi : Nat) (hlt : lo < hi) (h : ∀ j, lo < j → j < hi → av j = none) :
    missing av lo hi + lo + 1 = hi := by
  rw [missing, missingFrom_all av (lo + 1) (hi - lo - 1) (fun j h1 h2 => h j (by omega) (by omega))]
  omega

theorem prefix_le_missing (av : Avail) (lo hi k : Nat) (h1 : lo + k < hi)
    (h : ∀ j, lo < j → j ≤ lo + k → av j = none) : k ≤ missing av lo hi := by
  unfold missing
  rw [show hi - lo - 1 = k + (hi - lo - 1 - k) by omega, missingFrom_add,
    missingFrom_all av (lo + 1) k (fun j h3 h4 => h j (by omega) (by omega))]
  exact Nat.le_add_right _ _

/-- an interval whose interior is missing entirely is searched in one pass over it -/
theorem findInRangeL_all_missing (av : Avail) (t : Int) (f lo hi : Nat) (h : ∀ j, lo < j → j < hi → av j = none) :
    (findInRangeL av t f lo hi).2.length ≤ missing av lo hi := by
  induction f, lo, hi using findInRangeL_induct (av := av) (t := t) with
  | stop f lo hi _ heq => rw [heq]; exact Nat.zero_le _
  | empty f lo hi l hgap _ hl heq =>
    have := missing_all av lo hi (Nat.lt_of_succ_lt hgap) h
    rw [heq]
    simp only
    omega
  | upper f lo hi s ts l hs => exact absurd (h s hs.lo_lt hs.lt_hi) (by rw [hs.av_eq]; simp)
  | lower f lo hi s ts l hs => exact absurd (h s hs.lo_lt hs.lt_hi) (by rw [hs.av_eq]; simp)

/-- **requests of the binary search: a logarithm of the range PLUS three times the missing files in it**
    (every availability pattern, any fuel).

    The statement carries a missing PREFIX: the first `r` files above `lo` are known to be missing, and what is
    left of the interval is at most `e` wide (`r = 0`, `e = hi - lo` is the bound one wants). The prefix makes
    the induction go through, because it is what an iteration leaves behind: a split found `d` below the
    midpoint has stepped over `d` missing files, a missing prefix of the upper part `(s, hi)`; the lower part
    `(lo, s)` keeps the prefix `(lo, hi)` had. Any missing prefix will do, not only the longest, so the probes'
    findings are passed on as they are.

    The argument is amortised. Each request either halves the width that is left (`clog_half` pays) or steps
    over a missing file, and a missing file is stepped over at most three times: on the way down or up from a
    midpoint, once more when its run has become the prefix of the interval (counted against the width: `+ r` on
    the left), and in the final pass over an interval that is missing entirely (`findInRangeL_all_missing`, the
    one case that is not an instance of the induction hypothesis). -/
theorem findInRangeL_sum_bound (av : Avail) (t : Int) (f lo hi r e : Nat) (hlt : lo + r < hi) (he : hi ≤ lo + r + e)
    (hr : ∀ j, lo < j → j ≤ lo + r → av j = none) :
    (findInRangeL av t f lo hi).2.length + r ≤ clog e + 3 * missing av lo hi := by
  induction f, lo, hi using findInRangeL_induct (av := av) (t := t) generalizing r e with
  | stop f lo hi _ heq =>
    have := prefix_le_missing av lo hi r hlt hr
    rw [heq, List.length_nil]
    omega
  | empty f lo hi l hgap hall hl heq =>
    have := missing_all av lo hi (Nat.lt_of_succ_lt hgap) hall
    rw [heq]
    simp only
    omega
  | upper f lo hi s ts l hs _ heq ih =>
    have hsr := hs.above_prefix hr
    have hhi := hs.lt_hi
    have hM := missing_split av lo s hi hs.lo_lt hhi ts hs.av_eq
    have hMl := prefix_le_missing av lo s r hsr hr
    have hc := clog_half e (by omega)
    rw [heq, List.length_append]
    rcases hs.side with ⟨d, hd, hn, hrun⟩ | ⟨hmid, hn, hrun⟩
    · -- the files stepped over on the way down from the midpoint are a missing prefix of `(s, hi)`
      have hdhi : s + d < hi := by omega
      by_cases hr0 : r = 0
      · -- what is left of that interval is the upper half of `(lo, hi)`: halving (`hc`) pays for the request at `s`
        have := ih d ((e + 1) / 2) hdhi (by omega) hrun
        omega
      · -- `e` is the width above `lo + r`, and with `r > 0` the midpoint of `(lo, hi)` need not halve it. The
        -- prefix pays instead, for itself and for the request at `s`: `1 + r ≤ 3 * missing av lo s`, from
        -- `r ≤ missing av lo s` (`hMl`) and `1 ≤ r`
        have := ih d e hdhi (by omega) hrun
        omega
    · -- all of `(lo, s)` is missing, the midpoint at least: these files pay for the requests and for the prefix,
      -- `l.length + r ≤ 3 * missing av lo s`, from `l.length = missing av lo s + 1`, `r ≤ missing av lo s` (`hMl`)
      -- and `1 ≤ missing av lo s`
      have := ih 0 e hhi (by omega) (fun j h1 h2 => absurd h1 (Nat.not_lt_of_le h2))
      have := missing_all av lo s hs.lo_lt hrun
      omega
  | lower f lo hi s ts l hs _ heq ih =>
    have hsr := hs.above_prefix hr
    have hhi := hs.lt_hi
    have hM := missing_split av lo s hi hs.lo_lt hhi ts hs.av_eq
    have hc := clog_half e (by omega)
    rw [heq, List.length_append]
    rcases hs.side with ⟨d, hd, hn, hrun⟩ | ⟨hmid, hn, hrun⟩
    · -- the lower part keeps its missing prefix and is at most half as wide; the files stepped over are
      -- missing files of the upper part
      have := ih r ((e + 1) / 2) hsr (by omega) hr
      have := prefix_le_missing av s hi d (by omega) hrun
      omega
    · -- one more pass over `(lo, s)`
      have := findInRangeL_all_missing av t f lo s hrun
      have := missing_all av lo s hs.lo_lt hrun
      omega

theorem findInRangeL_sum (av : Avail) (t : Int) (f lo hi : Nat) :
    (findInRangeL av t f lo hi).2.length ≤ clog (hi - lo) + 3 * missing av lo hi := by
  by_cases h : lo < hi
  · exact findInRangeL_sum_bound av t f lo hi 0 (hi - lo) h (by omega) (fun j h1 h2 => absurd h1 (Nat.not_lt_of_le h2))
  · rw [findInRangeL_stop (.inr (by omega))]
    exact Nat.zero_le _

/-- of the requests `l` (a log of the sequence numbers asked for), those that found their state file -/
def countAv (av : Avail) (l : List Nat) : Nat := (l.filter fun n => (av n).isSome).length
/-- … and those answered with a 404 -/
def countMiss (av : Avail) (l : List Nat) : Nat := (l.filter fun n => (av n).isNone).length

theorem count_cons_av (av : Avail) (n : Nat) (l : List Nat) (ts : Int) (h : av n = some ts) :
    countAv av (n :: l) = countAv av l + 1 ∧ countMiss av (n :: l) = countMiss av l := by
  simp [countAv, countMiss, h]

theorem count_cons_miss (av : Avail) (n : Nat) (l : List Nat) (h : av n = none) :
    countAv av (n :: l) = countAv av l ∧ countMiss av (n :: l) = countMiss av l + 1 := by
  simp [countAv, countMiss, h]

theorem length_eq_counts (av : Avail) (l : List Nat) : l.length = countAv av l + countMiss av l := by
  rw [countAv, countMiss, ← List.countP_eq_length_filter, ← List.countP_eq_length_filter,
    List.length_eq_countP_add_countP (fun n => (av n).isSome)]
  simp only [Bool.not_eq_true, Option.isSome_eq_false_iff, Bool.decide_eq_true]

theorem countAv_le_length (av : Avail) (l : List Nat) : countAv av l ≤ l.length := List.length_filter_le _ _

theorem findBoundL_fst (av : Avail) (t : Int) (f l u : Nat) : (findBoundL av t f l u).1 = findBound av t f l u := by
  induction f generalizing l u with
  | zero => rfl
  | succ f ih =>
    unfold findBoundL findBound
    split
    · rfl
    · exact ih _ _

/-- Induction along the ascent of `findBound` (replication/search.go), one case for each way through its loop
    body. The file at `l` is missing: the midpoint towards `u` is tried next (`gap_climb`), unless there is none
    (`gap_stop`, the loop gives up with `(u, u)`). Or it is there and not after `t`: done (`early`). Or it is
    after `t`: it becomes the new upper bound and the ascent restarts from the bottom (`late_restart`), unless
    `l` and `u` are adjacent (`late_adjacent`) or there is no room below (`late_bottom`). Each case comes with
    what `findBoundL` then is, so that no proof about the ascent unfolds `boundStep`. -/
theorem findBoundL_induct {av : Avail} {t : Int} {P : Nat → Nat → Nat → Prop}
    (fuel : ∀ l u, findBoundL av t 0 l u = ((u, u), []) → P 0 l u)
    (gap_stop : ∀ f l u, av l = none → (l + u) / 2 ≤ l → findBoundL av t (f + 1) l u = ((u, u), [l]) → P (f + 1) l u)
    (gap_climb : ∀ f l u, av l = none → l < (l + u) / 2 →
      findBoundL av t (f + 1) l u = ((findBoundL av t f ((l + u) / 2) u).1, l :: (findBoundL av t f ((l + u) / 2) u).2) →
      P f ((l + u) / 2) u → P (f + 1) l u)
    (early : ∀ f l u ts, av l = some ts → ts ≤ t → findBoundL av t (f + 1) l u = ((l, u), [l]) → P (f + 1) l u)
    (late_adjacent : ∀ f l u ts, av l = some ts → t < ts → u ≤ l + 1 →
      findBoundL av t (f + 1) l u = ((l, u), [l]) → P (f + 1) l u)
    (late_bottom : ∀ f l u ts, av l = some ts → t < ts → l + 1 < u → (1 + l) / 2 ≤ 1 →
      findBoundL av t (f + 1) l u = ((l, l), [l]) → P (f + 1) l u)
    (late_restart : ∀ f l u ts, av l = some ts → t < ts → l + 1 < u → 1 < (1 + l) / 2 →
      findBoundL av t (f + 1) l u = ((findBoundL av t f ((1 + l) / 2) l).1, l :: (findBoundL av t f ((1 + l) / 2) l).2) →
      P f ((1 + l) / 2) l → P (f + 1) l u)
    (f l u : Nat) : P f l u := by
  induction f generalizing l u with
  | zero => exact fuel l u rfl
  | succ f ih =>
    have heq := findBoundL.eq_2 av t l u f
    revert heq
    fun_cases boundStep av t l u with
    | case1 ts hav hlate hadj => exact fun heq => late_adjacent f l u ts hav hlate hadj heq
    | case2 ts hav hlate hadj newID hsmall => exact fun heq => late_bottom f l u ts hav hlate (by omega) hsmall heq
    | case3 ts hav hlate hadj newID hsmall =>
      exact fun heq => late_restart f l u ts hav hlate (by omega) (by omega) heq (ih _ _)
    | case4 ts hav hearly => exact fun heq => early f l u ts hav (by omega) heq
    | case5 hav newID hstop => exact fun heq => gap_stop f l u hav hstop heq
    | case6 hav newID hclimb => exact fun heq => gap_climb f l u hav (by omega) heq (ih _ _)

/-- what `findBound` hands to the binary search: bounds inside its range and, if that ends on a state at or after
    `t`, two available states, the upper one at or after `t` -/
theorem findBoundL_ok (av : Avail) (t : Int) (f l u : Nat) (hlu : l < u) :
    ((∃ b, av u = some b ∧ t ≤ b) →
      (∃ a, av (findBoundL av t f l u).1.1 = some a) ∧ (∃ b, av (findBoundL av t f l u).1.2 = some b ∧ t ≤ b)) ∧
    (findBoundL av t f l u).1.1 ≤ (findBoundL av t f l u).1.2 ∧ (findBoundL av t f l u).1.2 ≤ u := by
  induction f, l, u using findBoundL_induct (av := av) (t := t) with
  | fuel l u heq => rw [heq]; exact ⟨fun hu => ⟨hu.imp fun _ h => h.1, hu⟩, Nat.le_refl _, Nat.le_refl _⟩
  | gap_stop f l u _ _ heq => rw [heq]; exact ⟨fun hu => ⟨hu.imp fun _ h => h.1, hu⟩, Nat.le_refl _, Nat.le_refl _⟩
  | gap_climb f l u _ hclimb heq ih => rw [heq]; exact ih (by omega)
  | early f l u ts hav _ heq => rw [heq]; exact ⟨fun hu => ⟨⟨ts, hav⟩, hu⟩, Nat.le_of_lt hlu, Nat.le_refl _⟩
  | late_adjacent f l u ts hav _ _ heq => rw [heq]; exact ⟨fun hu => ⟨⟨ts, hav⟩, hu⟩, Nat.le_of_lt hlu, Nat.le_refl _⟩
  | late_bottom f l u ts hav hlate _ _ heq =>
    rw [heq]; exact ⟨fun _ => ⟨⟨ts, hav⟩, ts, hav, Int.le_of_lt hlate⟩, Nat.le_refl _, Nat.le_of_lt hlu⟩
  | late_restart f l u ts hav hlate _ hroom heq ih =>
    rw [heq]
    obtain ⟨h1, h2, h3⟩ := ih (by omega)
    exact ⟨fun _ => h1 ⟨ts, hav, Int.le_of_lt hlate⟩, h2, Nat.le_trans h3 (Nat.le_of_lt hlu)⟩

/-- **the ascent of `findBound`**: the requests that hit an existing state file are at most a logarithm of the
    current sequence number plus the requests that hit a missing file (plus a constant `k`) — every availability
    pattern, any fuel. A step down to a new upper bound either follows directly on the previous one (then the
    bound is halved) or was preceded by at least one step over a missing file. The constant is 2, and 1 when
    the ascent starts in the lower half of its range, as it does after every restart. -/
theorem findBoundL_requests (av : Avail) (t : Int) (f l u : Nat) (hl : 1 ≤ l) (hlu : l < u)
    (k : Nat) (hk : 1 ≤ k) (hk2 : u + 1 < 2 * l → 2 ≤ k) :
    countAv av (findBoundL av t f l u).2 ≤ clog u + countMiss av (findBoundL av t f l u).2 + k := by
  have last : ∀ l u k, 1 ≤ k → countAv av [l] ≤ clog u + countMiss av [l] + k := fun l u k hk =>
    Nat.le_trans (countAv_le_length av [l]) (Nat.le_trans hk (Nat.le_add_left k _))
  induction f, l, u using findBoundL_induct (av := av) (t := t) generalizing k with
  | fuel l u heq => rw [heq]; exact Nat.zero_le _
  | gap_stop f l u _ _ heq => rw [heq]; exact last l u k hk
  | gap_climb f l u hav hclimb heq ih =>
    -- whatever the constant of the rest of the ascent, the missing file at `l` pays for one of it
    have := ih (by omega) (by omega) 2 (by decide) (fun _ => Nat.le_refl 2)
    rw [heq, (count_cons_miss av l _ hav).1, (count_cons_miss av l _ hav).2]
    omega
  | early f l u _ _ _ heq => rw [heq]; exact last l u k hk
  | late_adjacent f l u _ _ _ _ heq => rw [heq]; exact last l u k hk
  | late_bottom f l u _ _ _ _ _ heq => rw [heq]; exact last l u k hk
  | late_restart f l u ts hav _ _ hroom heq ih =>
    -- the restart begins at (1+l)/2, in the lower half of the range below the new upper bound `l`
    have := ih (by omega) (by omega) 1 (Nat.le_refl 1) (fun h => by omega)
    rw [heq, (count_cons_av av l _ ts hav).1, (count_cons_av av l _ ts hav).2]
    by_cases hhalf : 2 * l ≤ u + 1
    · have := clog_succ_le l u hl (by omega) hhalf
      omega
    · have := clog_mono l u (by omega)
      have := hk2 (by omega)
      omega

end OsmVerif.Model.Search
