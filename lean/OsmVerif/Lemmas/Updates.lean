import OsmVerif.Model.Updates
/-! `applyAll` is the loop of `ApplyUpdatesUpTo` without its range check. Over a prefix whose applicable updates are
in range the two agree (`applyLoop_append`); that gives the loop's result when all are in range and at the first
that is not. -/
namespace OsmVerif.Model.Updates

def applyAll (isRel : Bool) (cs : List Child) (A : List Update) : List Child :=
  A.foldl (fun cs u => cs.modify u.index (fun c => c.apply isRel u)) cs

@[simp] theorem applyAll_nil (isRel cs) : applyAll isRel cs [] = cs := rfl
@[simp] theorem applyAll_cons (isRel cs u A) :
    applyAll isRel cs (u :: A) = applyAll isRel (cs.modify u.index (fun c => c.apply isRel u)) A := rfl

theorem applyAll_append (isRel cs A B) :
    applyAll isRel cs (A ++ B) = applyAll isRel (applyAll isRel cs A) B :=
  List.foldl_append

@[simp] theorem applyAll_length (isRel : Bool) (cs : List Child) (A : List Update) :
    (applyAll isRel cs A).length = cs.length := by
  induction A generalizing cs with
  | nil => rfl
  | cons u A ih => simp [ih]

/-- child `i` only sees the updates addressed to `i` -/
theorem applyAll_getElem? (isRel : Bool) (cs : List Child) (A : List Update) (i : Nat) :
    (applyAll isRel cs A)[i]? =
      (cs[i]?).map (fun c => (A.filter (fun u => u.index = i)).foldl (Child.apply isRel) c) := by
  induction A generalizing cs with
  | nil => simp
  | cons u A ih =>
    rw [applyAll_cons, ih]
    by_cases h : u.index = i
    · subst h
      rw [List.filter_cons_of_pos (by simp), List.getElem?_modify_eq]
      cases cs[u.index]? <;> rfl
    · rw [List.filter_cons_of_neg (by simpa using h), List.getElem?_modify_ne _ _ h]

/-- so the updates of different children commute -/
theorem applyAll_congr (isRel : Bool) (cs : List Child) {A B : List Update}
    (h : ∀ i, A.filter (fun u => u.index = i) = B.filter (fun u => u.index = i)) :
    applyAll isRel cs A = applyAll isRel cs B :=
  List.ext_getElem? fun i => by rw [applyAll_getElem?, applyAll_getElem?, h i]

theorem apply_key (isRel : Bool) (c : Child) (u : Update) : (c.apply isRel u).key = c.key := rfl

theorem foldl_apply_key (isRel : Bool) (c : Child) (A : List Update) :
    (A.foldl (Child.apply isRel) c).key = c.key := by
  induction A generalizing c with
  | nil => rfl
  | cons u A ih => exact ih (c.apply isRel u)

theorem applyLoop_append (isRel : Bool) (t : Int) (pre rest : List Update) (cs : List Child) (pend : List Update)
    (h : ∀ u ∈ pre, ¬ u.ts > t → u.index < cs.length) :
    applyLoop isRel t (pre ++ rest) cs pend =
      applyLoop isRel t rest (applyAll isRel cs (pre.filter (fun u => !(u.ts > t))))
        ((pre.filter (fun u => u.ts > t)).reverse ++ pend) := by
  induction pre generalizing cs pend with
  | nil => rfl
  | cons u pre ih =>
    have ⟨hin, hpre⟩ := List.forall_mem_cons.mp h
    rw [List.cons_append, applyLoop]
    by_cases hu : u.ts > t
    · rw [if_pos hu, ih cs (u :: pend) hpre]
      simp only [List.filter_cons, hu, decide_true, Bool.not_true, Bool.false_eq_true, if_false, if_true,
        List.reverse_cons, List.append_assoc, List.singleton_append]
    · simp only [if_neg hu, applyUpdate, if_neg (Nat.not_le_of_lt (hin hu))]
      rw [ih _ pend (by rwa [List.length_modify])]
      simp only [List.filter_cons, hu, decide_false, Bool.not_false, if_true, Bool.false_eq_true, if_false,
        applyAll_cons]

theorem applyLoop_ok (isRel : Bool) (t : Int) (us : List Update) (cs : List Child) (pend : List Update)
    (h : ∀ u ∈ us, ¬ u.ts > t → u.index < cs.length) :
    applyLoop isRel t us cs pend =
      (applyAll isRel cs (us.filter (fun u => !(u.ts > t))), pend.reverse ++ us.filter (fun u => u.ts > t), none) := by
  have := applyLoop_append isRel t us [] cs pend h
  simpa [applyLoop] using this

theorem applyLoop_err (isRel : Bool) (t : Int) (pre : List Update) (bad : Update) (post : List Update)
    (cs : List Child) (pend : List Update)
    (hpre : ∀ u ∈ pre, ¬ u.ts > t → u.index < cs.length)
    (hbad : ¬ bad.ts > t) (hidx : bad.index ≥ cs.length) :
    applyLoop isRel t (pre ++ bad :: post) cs pend =
      (applyAll isRel cs (pre.filter (fun u => !(u.ts > t))), [], some bad.index) := by
  rw [applyLoop_append isRel t pre _ cs pend hpre]
  simp [applyLoop, hbad, applyUpdate, hidx]

/-- applying up to `t1`, then up to `t2 ≥ t1` what that left pending (`ts > t1`), applies what applying up to `t2`
    at once does, in the same order -/
theorem sorted_filter_split (l : List Update) (t1 t2 : Int) (h12 : t1 ≤ t2)
    (hs : l.Pairwise (fun a b => a.ts ≤ b.ts)) :
    l.filter (fun u => !(u.ts > t1)) ++ (l.filter (fun u => u.ts > t1)).filter (fun u => !(u.ts > t2))
      = l.filter (fun u => !(u.ts > t2)) := by
  induction l with
  | nil => rfl
  | cons x xs ih =>
    have hx := List.pairwise_cons.mp hs
    by_cases h1 : x.ts > t1
    · -- everything after x is also later than t1
      have hall : ∀ y ∈ xs, y.ts > t1 := fun y hy => Int.lt_of_lt_of_le h1 (hx.1 y hy)
      have e1 : xs.filter (fun u => !(u.ts > t1)) = [] :=
        List.filter_eq_nil_iff.mpr fun y hy => by simp [hall y hy]
      have e2 : xs.filter (fun u => u.ts > t1) = xs :=
        List.filter_eq_self.mpr fun y hy => by simp [hall y hy]
      simp only [List.filter_cons, h1, decide_true, Bool.not_true, Bool.false_eq_true, if_false, if_true, e1, e2,
        List.nil_append]
    · have h2 : ¬ x.ts > t2 := by omega
      simp only [List.filter_cons, h1, h2, decide_false, Bool.not_false, if_true, Bool.false_eq_true, if_false,
        List.cons_append, ih hx.2]

theorem filter_index_comm (l : List Update) (p : Update → Bool) (i : Nat) :
    (l.filter p).filter (fun u => u.index = i) = (l.filter (fun u => u.index = i)).filter p := by
  rw [List.filter_filter, List.filter_filter]
  congr 1; funext u; exact Bool.and_comm _ _

/-! The range check of `LineStringAt` before it writes a point is the one `List.set` makes anyway. -/

theorem lsLoop_late {t : Int} {u : Update} (hu : u.ts > t) (late_breaks : Bool) (rest : List Update)
    (ls : List (Int × Int)) :
    lsLoop late_breaks t (u :: rest) ls = if late_breaks then ls else lsLoop late_breaks t rest ls := by
  rw [lsLoop, if_pos hu]

theorem lsLoop_applicable {t : Int} {u : Update} (hu : ¬ u.ts > t) (late_breaks : Bool) (rest : List Update)
    (ls : List (Int × Int)) :
    lsLoop late_breaks t (u :: rest) ls = lsLoop late_breaks t rest (ls.set u.index (u.lon, u.lat)) := by
  rw [lsLoop, if_neg hu]
  split
  · next h => rw [List.set_eq_of_length_le h]
  · rfl

end OsmVerif.Model.Updates
