import OsmVerif.Model.Schema
/-! The XML element names the `OSM` struct decodes and the inner marshalers write, evaluated once for C03 and C04
(apart from `Lemmas/Schema` so that C05, which does not need them, does not wait for the evaluation). -/
namespace OsmVerif.Model.Schema
open OsmVerif.Gen.Schema

/-- One statement: the two `emittedBy` conjuncts resolve the named slice types (`elemType` over `namedTypes`), the
    slow part of the evaluation, and the kernel shares that work only within one declaration. -/
theorem osm_children :
    decodableChildren "OSM" = ["bounds", "node", "way", "relation", "changeset", "note", "user"] ∧
    emittedBy marshalInnerXMLCalls = ["bounds", "node", "way", "relation", "changeset", "note", "user"] ∧
    emittedBy marshalInnerElementsXMLCalls = ["node", "way", "relation"] := by
  decide +kernel

end OsmVerif.Model.Schema
