/-! Facts about lists (and one about `Except`) that several properties need and core Lean does not state. -/
namespace List

theorem any_congr_mem {α} {l : List α} {f g : α → Bool} (h : ∀ x ∈ l, f x = g x) : l.any f = l.any g := by
  induction l with
  | nil => rfl
  | cons x xs ih => rw [any_cons, any_cons, h x mem_cons_self, ih fun y hy => h y (mem_cons_of_mem x hy)]

theorem any_eq_decide {α : Type} {l : List α} (hne : l ≠ []) (p : α → Prop) [DecidablePred p] (Q : Prop) [Decidable Q]
    (h : ∀ x ∈ l, p x ↔ Q) : (l.any fun x => decide (p x)) = decide Q := by
  by_cases hq : Q
  · obtain ⟨x, rest, rfl⟩ := exists_cons_of_ne_nil hne
    rw [decide_eq_true hq]
    exact any_eq_true.mpr ⟨x, mem_cons_self, decide_eq_true ((h x mem_cons_self).mpr hq)⟩
  · rw [decide_eq_false hq, any_eq_false]
    intro x hx hp
    exact hq ((h x hx).mp (of_decide_eq_true hp))

theorem filterMap_congr_mem {α β} {l : List α} {f g : α → Option β} (h : ∀ x ∈ l, f x = g x) :
    l.filterMap f = l.filterMap g := by
  induction l with
  | nil => rfl
  | cons x xs ih =>
    rw [filterMap_cons, filterMap_cons, h x mem_cons_self, ih fun y hy => h y (mem_cons_of_mem x hy)]

theorem flatMap_toList {α β} (f : α → Option β) (l : List α) : l.flatMap (fun a => (f a).toList) = l.filterMap f := by
  induction l with
  | nil => rfl
  | cons a l ih =>
    rw [flatMap_cons, filterMap_cons, ih]
    cases f a <;> rfl

theorem perm_flatMap_left {α β} {f g : α → List β} (l : List α) (h : ∀ a ∈ l, (f a).Perm (g a)) :
    (l.flatMap f).Perm (l.flatMap g) := by
  induction l with
  | nil => exact .refl _
  | cons a l ih => exact (h a mem_cons_self).append (ih fun b hb => h b (mem_cons_of_mem a hb))

theorem inj_of_nodup_map {α β} {l : List α} {f : α → β} (h : (l.map f).Nodup) {a b : α} (ha : a ∈ l) (hb : b ∈ l)
    (e : f a = f b) : a = b := by
  induction l with
  | nil => cases ha
  | cons x xs ih =>
    rw [map_cons, nodup_cons] at h
    rcases mem_cons.mp ha with rfl | ha' <;> rcases mem_cons.mp hb with rfl | hb'
    · rfl
    · exact absurd (mem_map.mpr ⟨b, hb', e.symm⟩) h.1
    · exact absurd (mem_map.mpr ⟨a, ha', e⟩) h.1
    · exact ih h.2 ha' hb'

theorem find?_unique {α} {p : α → Bool} {l : List α} {x : α} (hx : x ∈ l) (hp : p x = true)
    (hu : ∀ y ∈ l, p y = true → y = x) : l.find? p = some x := by
  cases h : l.find? p with
  | none => exact absurd hp (find?_eq_none.mp h x hx)
  | some y => rw [hu y (mem_of_find?_eq_some h) (find?_some h)]

/-- with distinct keys at most one pair carries a given key -/
theorem filter_key_eq_find? {κ ν} [DecidableEq κ] {l : List (κ × ν)} (hn : (l.map (·.1)).Nodup) (k : κ) :
    l.filter (·.1 = k) = (l.find? (·.1 = k)).toList := by
  induction l with
  | nil => rfl
  | cons x xs ih =>
    rw [map_cons, nodup_cons] at hn
    by_cases hx : x.1 = k
    · have hp : decide (x.1 = k) = true := decide_eq_true hx
      have hnil : xs.filter (·.1 = k) = [] :=
        filter_eq_nil_iff.mpr fun y hy hyk => hn.1 (mem_map.mpr ⟨y, hy, (of_decide_eq_true hyk).trans hx.symm⟩)
      simp only [filter_cons, find?_cons, hp, if_true, hnil, Option.toList]
    · have hp : decide (x.1 = k) = false := decide_eq_false hx
      simp only [filter_cons, find?_cons, hp, Bool.false_eq_true, if_false, ih hn.2]

theorem find?_key_perm {κ ν} [DecidableEq κ] {l₁ l₂ : List (κ × ν)} (hp : l₁.Perm l₂) (hn : (l₁.map (·.1)).Nodup) (k : κ) :
    l₁.find? (·.1 = k) = l₂.find? (·.1 = k) := by
  have h := hp.filter (·.1 = k)
  rw [filter_key_eq_find? hn, filter_key_eq_find? ((hp.map (·.1)).nodup_iff.mp hn)] at h
  exact Option.ext fun x => by rw [← Option.mem_toList, ← Option.mem_toList, h.mem_iff]

theorem length_filter_mono {α : Type} {p : α → Bool} {l : List α} {q : α → Bool}
    (h : ∀ x ∈ l, p x = true → q x = true) : (l.filter p).length ≤ (l.filter q).length := by
  rw [← countP_eq_length_filter, ← countP_eq_length_filter]
  exact countP_mono_left h

theorem getD_map_range {β} (f : Nat → β) (n i : Nat) (d : β) :
    ((List.range n).map f).getD i d = if i < n then f i else d := by
  by_cases h : i < n <;> simp [h]

/-! ### predicates that hold on a prefix

A predicate that holds of `a` whenever it holds of a later `b` holds exactly on a prefix of the list. A list sorted
by a key is such a list for "key at most `t`" and "key below `t`". -/

section Prefix
variable {α : Type} {p : α → Bool} {l : List α}

theorem filter_eq_take_of_pairwise (h : l.Pairwise (fun a b => p b = true → p a = true)) :
    l.filter p = l.take (l.filter p).length := by
  induction l with
  | nil => rfl
  | cons a l ih =>
    have ⟨ha, hl⟩ := pairwise_cons.mp h
    by_cases hp : p a = true
    · rw [filter_cons_of_pos hp, length_cons, take_succ_cons, ← ih hl]
    · -- nothing after `a` passes either
      have hnil : l.filter p = [] := filter_eq_nil_iff.mpr fun b hb hpb => hp (ha b hb hpb)
      rw [filter_cons_of_neg hp, hnil]
      rfl

theorem lt_length_filter_iff_of_pairwise (h : l.Pairwise (fun a b => p b = true → p a = true)) {k : Nat} {c : α}
    (hk : l[k]? = some c) : p c = true ↔ k < (l.filter p).length := by
  induction l generalizing k with
  | nil => cases hk
  | cons a l ih =>
    have ⟨ha, hl⟩ := pairwise_cons.mp h
    by_cases hp : p a = true
    · rw [filter_cons_of_pos hp, length_cons]
      cases k with
      | zero =>
        cases hk
        exact ⟨fun _ => Nat.zero_lt_succ _, fun _ => hp⟩
      | succ k => exact (ih hl hk).trans Nat.succ_lt_succ_iff.symm
    · -- nothing passes, `c` included
      have hnone : ∀ b ∈ a :: l, ¬ p b = true := by
        intro b hb
        rcases mem_cons.mp hb with rfl | hb
        · exact hp
        · exact fun hpb => hp (ha b hb hpb)
      rw [filter_eq_nil_iff.mpr hnone]
      exact ⟨fun hc => absurd hc (hnone c (mem_of_getElem? hk)), fun hlt => absurd hlt (Nat.not_lt_zero k)⟩

theorem getLast?_filter_of_pairwise (h : l.Pairwise (fun a b => p b = true → p a = true)) :
    (l.filter p).getLast? = if (l.filter p).length = 0 then none else l[(l.filter p).length - 1]? := by
  have hle : (l.filter p).length ≤ l.length := length_filter_le _ _
  have ht := filter_eq_take_of_pairwise h
  generalize (l.filter p).length = n at hle ht ⊢
  rw [ht, getLast?_eq_getElem?, length_take, Nat.min_eq_left hle]
  cases n with
  | zero => rfl
  | succ n => rw [if_neg (Nat.succ_ne_zero n), Nat.add_sub_cancel, getElem?_take_of_lt (Nat.lt_succ_self n)]

end Prefix

theorem pairwise_le_closed {α : Type} {τ : α → Int} {l : List α} (h : l.Pairwise (fun a b => τ a ≤ τ b)) (t : Int) :
    l.Pairwise (fun a b => decide (τ b ≤ t) = true → decide (τ a ≤ t) = true) :=
  h.imp fun h h' => decide_eq_true (Int.le_trans h (of_decide_eq_true h'))

theorem pairwise_lt_closed {α : Type} {τ : α → Int} {l : List α} (h : l.Pairwise (fun a b => τ a ≤ τ b)) (t : Int) :
    l.Pairwise (fun a b => decide (τ b < t) = true → decide (τ a < t) = true) :=
  h.imp fun h h' => decide_eq_true (Int.lt_of_le_of_lt h (of_decide_eq_true h'))

/-- A loop `f` that walks down a list while `p` holds, keeping `g` of the element it saw last: when `p` holds on a
    prefix, the result is `g` of the last element that passes. `FindVisible` in the commit-time regime and
    `VersionBefore` are such loops. -/
theorem loop_eq_getLast?_filter {α β : Type} {p : α → Bool} {g : α → β} {f : List α → β → β} (h0 : ∀ s, f [] s = s)
    {l : List α} (h1 : ∀ c ∈ l, ∀ rest s, f (c :: rest) s = if p c = true then f rest (g c) else s)
    (hp : l.Pairwise (fun a b => p b = true → p a = true)) (s : β) :
    f l s = (l.filter p).getLast?.elim s g := by
  induction l generalizing s with
  | nil => exact h0 s
  | cons c l ih =>
    have ⟨hc, hl⟩ := pairwise_cons.mp hp
    rw [h1 c mem_cons_self]
    by_cases hpc : p c = true
    · rw [if_pos hpc, ih (fun d hd => h1 d (mem_cons_of_mem c hd)) hl, filter_cons_of_pos hpc, getLast?_cons]
      cases (l.filter p).getLast? <;> rfl
    · -- nothing after `c` passes either
      rw [if_neg hpc, filter_cons_of_neg hpc, filter_eq_nil_iff.mpr fun b hb hpb => hpc (hc b hb hpb)]
      rfl

theorem foldlM_ok_invariant {ε α β} {f : β → α → Except ε β} (P : β → Prop) {l : List α} {init res : β}
    (h : l.foldlM f init = .ok res) (h0 : P init) (hstep : ∀ b, P b → ∀ a ∈ l, ∀ b', f b a = .ok b' → P b') :
    P res := by
  induction l generalizing init with
  | nil => cases h; exact h0
  | cons a l ih =>
    rw [foldlM_cons] at h
    cases hf : f init a with
    | error e => rw [hf] at h; cases h
    | ok b' =>
      rw [hf] at h
      exact ih h (hstep init h0 a mem_cons_self b' hf) fun b hb x hx => hstep b hb x (mem_cons_of_mem a hx)

/-- induction along a left fold that also sees the part of the list already folded -/
theorem foldl_prefix_induction {α β} {f : β → α → β} {motive : β → List α → Prop} {init : β} (h0 : motive init [])
    (step : ∀ b done a, motive b done → motive (f b a) (done ++ [a])) (l : List α) : motive (l.foldl f init) l := by
  suffices h : ∀ (rest done : List α) (b : β), motive b done → motive (rest.foldl f b) (done ++ rest) from h l [] init h0
  intro rest
  induction rest with
  | nil =>
    intro done b h
    rwa [append_nil]
  | cons a rest ih =>
    intro done b h
    rw [foldl_cons, append_cons]
    exact ih _ _ (step b done a h)

/-! ### ordered insert

Facts about any `ins` that satisfies the two equations of an ordered insert (put `x` before the first `y` with
`le x y`): each model's own insertion sort gets them from its defining equations. -/

section Insert
variable {α : Type} {le : α → α → Bool} {ins : α → List α → List α} (h0 : ∀ x, ins x [] = [x])
  (h1 : ∀ x y ys, ins x (y :: ys) = if le x y then x :: y :: ys else y :: ins x ys)
include h0 h1

theorem perm_of_ins (x : α) (l : List α) : (ins x l).Perm (x :: l) := by
  induction l with
  | nil => rw [h0]
  | cons y ys ih =>
    rw [h1]
    split
    · exact Perm.refl _
    · exact (ih.cons y).trans (Perm.swap x y ys)

theorem pairwise_of_ins {R : α → α → Prop} (hle : ∀ x y, le x y = true → R x y) (hnle : ∀ x y, ¬ le x y = true → R y x)
    (htr : ∀ x y z, le x y = true → R y z → R x z) (x : α) {l : List α} (h : l.Pairwise R) :
    (ins x l).Pairwise R := by
  induction l with
  | nil =>
    rw [h0]
    exact pairwise_singleton R x
  | cons y ys ih =>
    have hy := pairwise_cons.mp h
    rw [h1]
    split
    · rename_i hxy
      refine pairwise_cons.mpr ⟨fun z hz => ?_, h⟩
      rcases mem_cons.mp hz with rfl | hz
      · exact hle x z hxy
      · exact htr x y z hxy (hy.1 z hz)
    · rename_i hxy
      refine pairwise_cons.mpr ⟨fun z hz => ?_, ih hy.2⟩
      rcases mem_cons.mp ((perm_of_ins h0 h1 x ys).mem_iff.mp hz) with rfl | hz
      · exact hnle z y hxy
      · exact hy.1 z hz

end Insert

end List

namespace Except

theorem map_eq_ok_iff {ε α β} {x : Except ε α} {f : α → β} {b : β} :
    f <$> x = .ok b ↔ ∃ a, x = .ok a ∧ f a = b := by
  cases x <;> simp [Functor.map, Except.map]

end Except
