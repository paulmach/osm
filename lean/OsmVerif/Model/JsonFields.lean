import OsmVerif.Lemmas.Record
/-! The scalar JSON keys of a record (flat part of the reflection codec), as an instance of `Model.Record`. -/
open OsmVerif.Gen.Schema OsmVerif.Model.Schema OsmVerif.Model.Record

namespace OsmVerif.Model.Schema

/-- Go kinds whose JSON form is a single scalar token (text); everything else is nested and opaque here -/
def jsonScalar (ty : String) : Bool :=
  let base := stripPrefix "*" ty
  let u := (namedType base).getD base
  ["string", "bool", "float64", "int", "int64", "int8", "time.Time", "orb.Orientation"].contains u

/-- encoding/json's omitempty test on the text of a scalar: false, 0, nil pointer, empty string; a struct
    (time.Time) is never empty -/
def jsonEmpty (ty text : String) : Bool :=
  let u := (namedType ty).getD ty
  if u = "string" then text = "" else if u = "bool" then text = "false"
  else if u = "float64" then text = "0" else if u.toList.head? = some '*' then text = ""
  else if u = "time.Time" then false else text = "0"

def jsonView (f : Field) : View :=
  let tg := parseJsonTag f
  { name := tg.name, use := !tg.skip && jsonScalar f.type && f.name != "XMLName",
    drop := fun t => tg.omitempty && jsonEmpty f.type t }

/-- the scalar keys written for a record of struct type `t`, in field order -/
def encodeJson (t : String) (r : Rec) : List (String × String) := enc jsonView (fieldsOf t) r

/-- the record read back from scalar keys (any order; unknown keys ignored; absent ↦ zero value) -/
def decodeJson (t : String) (kvs : List (String × String)) : Rec := dec jsonView (fun f => zeroText f.type) (fieldsOf t) kvs

def jsonKeyNames (t : String) : List String := names jsonView (fieldsOf t)

end OsmVerif.Model.Schema
