/-!
The pipeline of `decoder.Start` after the context was cancelled (Close, cancellation, or the serializer's own
deferred cancel): every blocking operation of the three kinds of goroutines is a `select` with a
`<-dec.ctx.Done()` branch, the reader's loop condition is false, decoders drain their input queue and end
when it is closed. The one blocking operation that is not a `select` is the reader's send of a resumed scan's
first data block to decoder 0 before its loop (`first`): it completes because a decoder leaves its receive loop
only when the input queues are closed, which only the reader does, after its loop. Shown: every step lowers a measure (no infinite run) and while a goroutine is alive
some step is enabled (no deadlock) — so all goroutines end, whatever the schedule.

Fairness is needed at exactly one place and is made explicit: a receive from an already closed output
queue succeeds at once with a zero value, so the serializer's `select` could keep preferring it to the
`Done` branch; `spurious` bounds how often it does (Go picks uniformly among ready cases).
-/
namespace OsmVerif.Model.PipelineStop

inductive RPC where
  | first | head | sending | done
  deriving DecidableEq, Repr

inductive WPC where
  | idle | sending | done
  deriving DecidableEq, Repr

inductive SPC where
  | waiting | forwarding | done
  deriving DecidableEq, Repr

structure St where
  reader : RPC
  inputsClosed : Bool
  inputs : Nat → Nat          -- per decoder: number of blocks waiting
  worker : Nat → WPC
  outputs : Nat → Nat         -- per decoder: number of results waiting
  ser : SPC
  spurious : Nat

inductive Step where
  | readerFirstSent            -- the bare send before the loop (resumed scan): handed to decoder 0
  | readerExit                 -- loop condition false: leave the loop, close all input queues (deferred)
  | readerSent (w : Nat) (enq : Bool)   -- the select after a read: queued to decoder w, or Done
  | workerTake (w : Nat)
  | workerExit (w : Nat)       -- input queue closed and empty: leave the range loop, close the output queue
  | workerSent (w : Nat) (enq : Bool)   -- the select after a decode: result queued, or Done
  | serDone                    -- the Done branch of either select of the serializer
  | serRecv (w : Nat)          -- a result received from decoder w
  | serRecvClosed (w : Nat)    -- a zero value received from a closed output queue
  | serSent                    -- forwarded to the consumer's queue
  deriving DecidableEq, Repr

def upd (f : Nat → α) (i : Nat) (v : α) : Nat → α := fun j => if j = i then v else f j

/-- one step with `n` decoders; `none` = not enabled -/
def step (n : Nat) (s : St) : Step → Option St
  | .readerFirstSent =>
    -- decoder 0 receives with `for p := range input`: it takes the block as long as it has not returned
    if s.reader = .first ∧ 0 < n ∧ s.worker 0 ≠ .done then
      some { s with reader := .head, inputs := upd s.inputs 0 (s.inputs 0 + 1) }
    else none
  | .readerExit => if s.reader = .head then some { s with reader := .done, inputsClosed := true } else none
  | .readerSent w enq =>
    if s.reader = .sending ∧ w < n then
      some { s with reader := .head, inputs := if enq then upd s.inputs w (s.inputs w + 1) else s.inputs }
    else none
  | .workerTake w =>
    if w < n ∧ s.worker w = .idle ∧ 0 < s.inputs w then
      some { s with worker := upd s.worker w .sending, inputs := upd s.inputs w (s.inputs w - 1) }
    else none
  | .workerExit w =>
    if w < n ∧ s.worker w = .idle ∧ s.inputs w = 0 ∧ s.inputsClosed then some { s with worker := upd s.worker w .done } else none
  | .workerSent w enq =>
    if w < n ∧ s.worker w = .sending then
      some { s with worker := upd s.worker w .idle, outputs := if enq then upd s.outputs w (s.outputs w + 1) else s.outputs }
    else none
  | .serDone => if s.ser ≠ .done then some { s with ser := .done } else none
  | .serRecv w =>
    if s.ser = .waiting ∧ w < n ∧ 0 < s.outputs w then
      some { s with ser := .forwarding, outputs := upd s.outputs w (s.outputs w - 1) }
    else none
  | .serRecvClosed w =>
    if s.ser = .waiting ∧ w < n ∧ s.worker w = .done ∧ s.outputs w = 0 ∧ 0 < s.spurious then
      some { s with ser := .forwarding, spurious := s.spurious - 1 }
    else none
  | .serSent => if s.ser = .forwarding then some { s with ser := .waiting } else none

def allDone (n : Nat) (s : St) : Prop := s.reader = .done ∧ (∀ w, w < n → s.worker w = .done) ∧ s.ser = .done

def rW : RPC → Nat | .first => 7 | .head => 1 | .sending => 6 | .done => 0
def wW : WPC → Nat | .idle => 1 | .sending => 4 | .done => 0
def sW : SPC → Nat | .waiting => 2 | .forwarding => 3 | .done => 0

def sumTo (n : Nat) (f : Nat → Nat) : Nat := ((List.range n).map f).sum

/-- the measure: what every goroutine still has to do, every queued item weighted by how far it is from the end -/
def mu (n : Nat) (s : St) : Nat :=
  rW s.reader + sumTo n (fun w => wW (s.worker w) + 4 * s.inputs w + 2 * s.outputs w) + sW s.ser + 2 * s.spurious

/-- consistency that every reachable state has: a reader that has left its loop has closed the input queues; a
    reader still before its loop has not; and no decoder has returned while the input queues are open -/
def Consistent (s : St) : Prop :=
  (s.reader = .done → s.inputsClosed = true) ∧ (s.reader = .first → s.inputsClosed = false) ∧
  (s.inputsClosed = false → ∀ w, s.worker w ≠ .done)

/-- a run: steps that are enabled, one after the other -/
inductive Run (n : Nat) : St → List Step → St → Prop where
  | nil (s : St) : Run n s [] s
  | cons (s s' s'' : St) (a : Step) (as : List Step) : step n s a = some s' → Run n s' as s'' → Run n s (a :: as) s''

end OsmVerif.Model.PipelineStop
