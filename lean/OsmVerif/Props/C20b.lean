import OsmVerif.Props.C20
/-!
# C20 (continued) — the URL of every id-addressed call, for every id and version

`C20.endpoints_eq_documented` says the recipes are the documented ones; here the recipes are *run* for every
argument: the `%d` endpoints produce `base ++ literal ++ decimal id [++ "/" ++ decimal version] ++ literal`,
and two calls of the same versioned endpoint with different `(id, version)` never share a URL.
-/
namespace OsmVerif.Props.C20b
open OsmVerif.Gen.OsmApi OsmVerif.Model.OsmApi OsmVerif.Model.Text OsmVerif.Props.C20

def ep (n : String) : Option Endpoint := endpoints.find? (·.name = n)

/-- the three versioned calls and the path segment each documents -/
def versioned : List (String × String) :=
  [("NodeVersion", "/node/"), ("WayVersion", "/way/"), ("RelationVersion", "/relation/")]

/-- the recipes of the versioned endpoints, as regenerated: `%s<kind>%d/%d` with the base URL first -/
theorem versioned_recipes :
    versioned.all (fun p => (ep p.1).map (fun e => (e.recipe, e.format.toList, e.args))
      == some ("sprintf", '%' :: 's' :: p.2.toList ++ ['%', 'd', '/', '%', 'd'], ["ds.baseURL()", "id", "v"])) = true := by
  decide +kernel

theorem sprintf_s (rest : List Char) (s : String) (ss is fs) :
    sprintf ('%' :: 's' :: rest) (s :: ss) is fs = s.toList ++ sprintf rest ss is fs := rfl

theorem sprintf_d (rest : List Char) (i : Int) (ss is fs) :
    sprintf ('%' :: 'd' :: rest) ss (i :: is) fs = showInt i ++ sprintf rest ss is fs := rfl

theorem sprintf_char (c : Char) (hc : c ≠ '%') (rest ss is fs) :
    sprintf (c :: rest) ss is fs = c :: sprintf rest ss is fs := by
  -- the three verb cases begin with '%', which `c` is not: the last case is left
  simp [sprintf, hc]

theorem sprintf_lit (k : List Char) (hk : '%' ∉ k) (rest ss is fs) :
    sprintf (k ++ rest) ss is fs = k ++ sprintf rest ss is fs := by
  induction k with
  | nil => rfl
  | cons c cs ih =>
    rw [List.cons_append, sprintf_char c (fun e => hk (by simp [e])), ih (fun e => hk (by simp [e])), List.cons_append]

theorem sprintf_version (kind base : List Char) (hk : '%' ∉ kind) (id v : Int) :
    sprintf ('%' :: 's' :: (kind ++ ['%', 'd', '/', '%', 'd'])) [String.ofList base] [id, v] []
      = base ++ kind ++ showInt id ++ '/' :: showInt v := by
  rw [sprintf_s, sprintf_lit kind hk, sprintf_d, sprintf_char '/' (by decide), sprintf_d]
  simp [sprintf]

theorem buildURL_version (e : Endpoint) (kind base : List Char) (hk : '%' ∉ kind) (id v : Nat)
    (h : (e.recipe, e.format.toList, e.args) =
      ("sprintf", '%' :: 's' :: kind ++ ['%', 'd', '/', '%', 'd'], ["ds.baseURL()", "id", "v"])) :
    (buildURL e ⟨String.ofList base, [id, v], [], "", ""⟩).toList =
      base ++ kind ++ Nat.toDigits 10 id ++ '/' :: Nat.toDigits 10 v := by
  simp only [Prod.mk.injEq] at h
  obtain ⟨hr, hf, ha⟩ := h
  simp [buildURL, hr, hf, ha, strArgs, sprintf_version _ _ hk, showInt_natCast]

/-- **versioned calls, every id and version**: the URL is the base, the documented segment, the decimal id,
    a slash and the decimal version — nothing else -/
theorem version_url (n kind : String) (h : (n, kind) ∈ versioned) (base : List Char) (id v : Nat) :
    (ep n).map (fun e => (buildURL e ⟨String.ofList base, [id, v], [], "", ""⟩).toList)
      = some (base ++ kind.toList ++ Nat.toDigits 10 id ++ '/' :: Nat.toDigits 10 v) := by
  have hrec := List.all_eq_true.mp versioned_recipes (n, kind) h
  cases he : ep n with
  | none => simp [he] at hrec
  | some e =>
    simp only [he, Option.map_some, beq_iff_eq, Option.some.injEq] at hrec
    rw [Option.map_some, buildURL_version e kind.toList base ((by decide : ∀ p ∈ versioned, '%' ∉ p.2.toList) (n, kind) h) id v hrec]

/-- the `id/version` tail of a versioned URL splits back into exactly that id and version -/
theorem version_path_decodes (id v : Nat) :
    (splitOn '/' (Nat.toDigits 10 id ++ '/' :: Nat.toDigits 10 v)).map parseNat = [some id, some v] := by
  rw [splitOn_append _ _ _ (sep_not_mem_toDigits _ '/'),
      splitOn_of_not_mem _ _ (sep_not_mem_toDigits _ '/')]
  simp [parseNat_toDigits]

/-- **distinct (id, version) requests go to distinct URLs** of the same versioned endpoint, under any base -/
theorem version_url_injective (n kind : String) (h : (n, kind) ∈ versioned) (base : List Char) (id v id' v' : Nat)
    (e : (ep n).map (fun e => buildURL e ⟨String.ofList base, [id, v], [], "", ""⟩)
       = (ep n).map (fun e => buildURL e ⟨String.ofList base, [id', v'], [], "", ""⟩)) :
    id = id' ∧ v = v' := by
  -- the two URLs have the base and the segment in common; what is left splits back into id and version
  have e' := congrArg (Option.map String.toList) e
  rw [Option.map_map, Option.map_map] at e'
  have e2 : Nat.toDigits 10 id ++ '/' :: Nat.toDigits 10 v = Nat.toDigits 10 id' ++ '/' :: Nat.toDigits 10 v' := by
    simpa [Function.comp_def, version_url n kind h] using e'
  have d := version_path_decodes id v
  rw [e2, version_path_decodes] at d
  simpa [eq_comm] using d

example : (ep "WayVersion").map (fun e => buildURL e ⟨"http://x/api/0.6", [77, 12], [], "", ""⟩)
    = some "http://x/api/0.6/way/77/12" := by decide +kernel

end OsmVerif.Props.C20b
