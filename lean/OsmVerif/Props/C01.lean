import OsmVerif.Model.PbfCache
import OsmVerif.Lemmas.Pbf
import OsmVerif.Lemmas.PbfRoundTrip
import OsmVerif.Lemmas.PbfCache
/-!
# C01 — a PBF scan yields exactly the encoded header and elements

The format model (`Model.Pbf`) is the specification: delta-coded columns, `nano = offset + granularity·raw`,
`millis = date_granularity·raw`, format defaults; the correspondence check runs it and the real scanner on the
same files. Proved here: the decoder, which keeps its column iterators from block to block, never reads one that
the message at hand did not set (from the bookkeeping tables regenerated from `scanDenseNodes` /
`extractDenseNodes`), and the model decodes what an encoder writes to what was meant.
-/
namespace OsmVerif.Props.C01
open OsmVerif.Gen.Pbf OsmVerif.Model.Pbf OsmVerif.Model.PbfCache

/-- the bookkeeping of `scanDenseNodes`, written out; `tables_eq` shows that it is what is read from the source -/
def T : Tables :=
  { fieldCases := [⟨1, [.ids], [.ids]⟩, ⟨5, [], [.info]⟩, ⟨8, [.lats], [.lats]⟩, ⟨9, [.lons], [.lons]⟩, ⟨10, [.keyvals], [.keyvals]⟩],
    infoCases := [⟨1, [.versions], [.versions]⟩, ⟨2, [.timestamps], [.timestamps]⟩, ⟨3, [.changesets], [.changesets]⟩,
      ⟨4, [.uids], [.uids]⟩, ⟨5, [.usids], [.usids]⟩, ⟨6, [.visibles], [.visibles]⟩],
    infoResets := [⟨[.notFlag .versions], false, [.versions]⟩, ⟨[.notFlag .timestamps], false, [.timestamps]⟩,
      ⟨[.notFlag .changesets], false, [.changesets]⟩, ⟨[.notFlag .uids], false, [.uids]⟩,
      ⟨[.notFlag .usids], false, [.usids]⟩, ⟨[.notFlag .visibles], false, [.visibles]⟩],
    postChecks := [⟨[.notFlag .ids], true, []⟩, ⟨[.notFlag .lats], true, []⟩, ⟨[.notFlag .lons], true, []⟩,
      ⟨[.notFlag .keyvals, .emptyData .keyvals], false, [.keyvals]⟩,
      ⟨[.notFlag .info], false, [.versions, .timestamps, .changesets, .uids, .usids, .visibles]⟩],
    guarded := [.versions, .timestamps, .changesets, .uids, .usids, .visibles, .keyvals],
    unguarded := [.ids, .lats, .lons] }

theorem tables_eq : tables = some T := by decide +kernel
theorem infoFieldNum_eq : infoFieldNum = some 5 := by decide +kernel

/-- every iterator `extractDenseNodes` reads without a nil test is one whose absence `scanDenseNodes` rejects -/
theorem unguarded_are_mandatory :
    T.unguarded.all (fun it => T.fieldCases.any fun c => c.iters.contains it ∧
      c.flags.any fun f => T.postChecks.any fun ch => ch.isError ∧ ch.cond = [.notFlag f]) = true := by decide

/-- **no stale state** (dense nodes): whatever the cache holds from earlier blocks and groups, after the
    bookkeeping of `scanDenseNodes` the extraction sees exactly the columns of this message — an absent
    optional column is absent (format default), never a column of an earlier block. `T` and the DenseInfo field
    number 5 are those of the source by `tables_eq` and `infoFieldNum_eq`. -/
theorem dense_sees_message_only (c : Cache) (d : Dense) :
    (scanDense T 5 c d).map seen = some (expected d) := by
  obtain ⟨ids, lat, lon, kv, hasInfo, ver, ts, cs, uid, sid, vis⟩ := d
  -- run the tables with the presence of each optional column left open. Afterwards the flags are the list
  --   [ids, lats, lons] ++ (if kv.isSome then [keyvals] else []) ++ (if ver.isSome then [versions] else []) ++ …
  -- and, where there is a DenseInfo message, each of its iterators has been assigned and then gone through its reset:
  --   versions := if evalAtom s (.notFlag .versions) then none else ver.or c.versions     (`s` holding those flags)
  simp only [scanDense, outerFields_eq, infoFields_eq, runCases_append, T, runCases_optField,
    List.find?_cons, Nat.reduceEqDiff, decide_false, decide_true, Option.map_some, Option.getD_some,
    List.foldl_cons, List.foldl_nil, Cache.set, Cache.get, runChecks_cons, runChecks_nil]
  -- a flag is in that list exactly when its column is there; without a DenseInfo message the last of the `postChecks`
  -- has cleared its six iterators
  cases hasInfo <;> simp [evalAtom, Cache.get, seen, expected]
  -- with one, `(if ver = none then none else ver.or c.versions) = ver` is left for each of them: the reset empties an
  -- iterator exactly when nothing was assigned to it and the cached column would show through
  case' true => simp only [ite_none_or, true_and]
  -- either way there remains the key/value column, which is also emptied when it is there but has no entry
  all_goals cases kv with
    | none => simp
    | some l => cases l <;> simp

def splitAnd (s : String) : List String :=
  ((splitS '&' s).filter (· ≠ "")).map fun p => String.ofList ((p.toList.dropWhile (· = ' ')).reverse.dropWhile (· = ' ')).reverse

/-- every iterator passed to `scanTags` / `extractMembers` is assigned by a case that sets a found-flag, and the
    call is guarded by that flag -/
def guardsCover (cases calls : List String) : Bool :=
  calls.all fun c =>
    match splitS '|' c with
    | [cond, _, args] =>
      (list0 args).all fun it => cases.any fun cs =>
        match splitS '|' cs with
        | [_, its, fl] => (list0 its).contains it && fl ≠ "" && (splitAnd cond).contains fl
        | _ => false
    | _ => false

/-- ways and relations: `scanWays` has one guarded consumer call (`scanTags` on keys and vals), `scanRelations` two
    (`scanTags`, and `extractMembers` on roles, member ids and types); each passes only iterators that a case with a
    found-flag in the guard assigned -/
theorem elements_read_only_found_iterators :
    guardsCover scanWaysCases scanWaysGuardedCalls = true ∧ guardsCover scanRelationsCases scanRelationsGuardedCalls = true ∧
    scanWaysGuardedCalls.length = 1 ∧ scanRelationsGuardedCalls.length = 2 ∧
    -- and there is no call of the two consumers outside those guards
    scanWaysConsumerCallCount = scanWaysGuardedCalls.length ∧ scanRelationsConsumerCallCount = scanRelationsGuardedCalls.length := by decide +kernel

/-- the parameters and the string table cached from the previous block are cleared before a block is read:
    an absent granularity, offset or date granularity takes the format default, not the previous block's value -/
theorem block_params_reset :
    ["dec.primitiveBlock.Granularity = nil", "dec.primitiveBlock.LatOffset = nil", "dec.primitiveBlock.LonOffset = nil",
     "dec.primitiveBlock.DateGranularity = nil", "dec.primitiveBlock.Stringtable.S = dec.primitiveBlock.Stringtable.S[:0]"].all
      (fun r => blockResets.contains r) = true := by decide +kernel

/-- the queue of decoded objects is a fresh slice for every block (what a consumer holds is never appended to again) -/
theorem fresh_queue_per_block : decodeBody.contains "dec.q = make([]osm.Object, 0, 8000)" = true := by decide +kernel

/-- delta coding loses nothing, in either direction -/
theorem delta_roundtrip (l : List Int) : undelta (delta l) = l ∧ delta (undelta l) = l :=
  ⟨undelta_delta l, delta_undelta l⟩

theorem dense_no_info_defaults (gran dg la lo : Int) (st : List String) (d : Dense) (ns : List Node)
    (hi : d.hasInfo = false) (h : decodeDense gran dg la lo st d = some ns) : ∀ n ∈ ns, n.md = {} := by
  intro n hn
  obtain ⟨i, hlt, rfl⟩ := List.mem_iff_getElem.1 hn
  obtain ⟨v, t, c, u, s, vi, user, hv, ht, hc, hu, hs, hvi, huser, hmd⟩ := (decodeDense_getElem h).2 i hlt
  -- without the DenseInfo message every info column is absent
  simp only [hi, Bool.false_eq_true, if_false, Option.map_none] at hv ht hc hu hs hvi
  cases getCol_absent hv rfl
  cases getCol_absent ht rfl
  cases getCol_absent hc rfl
  cases getCol_absent hu rfl
  cases getCol_absent hs rfl
  cases getCol_absent hvi rfl
  cases huser
  exact hmd

/-- an element without an Info message has zero metadata and is visible -/
theorem no_info_defaults (dg : Int) (st : List String) : decodeInfo dg st none = some {} := rfl

/-- the objects of a file are the objects of its blocks, each block decoded on its own -/
theorem file_is_blockwise (b : Block) (bs : List Block) :
    decodeFile (b :: bs) = (decodeBlock b).bind fun os => (decodeFile bs).map fun rest => os ++ rest := by
  unfold decodeFile
  rw [List.mapM_cons]
  cases decodeBlock b with
  | none => rfl
  | some os =>
    cases bs.mapM decodeBlock with
    | none => rfl
    | some r => simp

/-- **decode ∘ encode = meaning, for every list of nodes**: a dense group written from any nodes (delta coded
    ids, coordinates, timestamps, changesets, uids, user ids; keys_vals with one delimiter per node) decodes
    to exactly those nodes — ids, metadata, coordinates `offset + granularity·raw`, tags in order -/
theorem decode_encode_dense (gran dg la lo : Int) (st : List String) (ns : List RNode) (hv : ∀ n ∈ ns, Valid st n) :
    decodeDense gran dg la lo st (encodeDense ns) = some (ns.map (meaning gran dg la lo st)) := by
  unfold decodeDense
  simp only [encodeDense, delta_length, List.length_map, ne_eq, not_true_eq_false, or_self, if_false, if_true,
    undelta_delta, Option.map_some]
  -- the tag lists: `keys_vals` is empty only when there is no node, and then both branches give no tag list
  rw [ite_eq_right_iff.2, splitKV_enc st ns hv]
  · refine range_mapM_eq _ _ ns ?_
    intro i hi
    have hvi := hv ns[i] (List.getElem_mem hi)
    have hl (f : RNode → Int) : i < (ns.map f).length := by simpa using hi
    simp only [getCol_some _ i (hl _), List.getElem_map, List.getD_eq_getElem?_getD, List.getElem?_map,
      List.getElem?_eq_getElem hi, Option.map_some, Option.getD_some]
    rw [str_nat st ns[i].sid hvi.1]
    simp only [Option.map_some, meaning, resolveTags]
    cases ns[i].vis <;> simp
  · intro hc
    cases ns with
    | nil => rfl
    | cons n rest => simp at hc

/-- decode ∘ encode for ways: delta-coded refs, parallel key/value columns, Info -/
theorem decode_encode_way (gran dg la lo : Int) (st : List String) (w : RWay)
    (hs : w.md.sid < st.length) (ht : ∀ kv ∈ w.tags, kv.1 < st.length ∧ kv.2 < st.length) :
    decodeWay gran dg la lo st (encodeWay w) = some (wayMeaning dg st w) := by
  unfold decodeWay
  -- no coordinate columns are written, so every node is its ref alone
  simp only [encodeWay, Option.getD_some, undelta_delta, decodeInfo_encode dg st w.md hs, decodeTags_encode st w.tags ht,
    getD_replicate, wayMeaning]
  rw [range_map_getD w.refs 0 fun r => ({ ref := r } : WayNode)]

/-- decode ∘ encode for relations: parallel role / delta-coded member id / type columns -/
theorem decode_encode_rel (dg : Int) (st : List String) (r : RRel)
    (hs : r.md.sid < st.length) (ht : ∀ kv ∈ r.tags, kv.1 < st.length ∧ kv.2 < st.length)
    (hm : ∀ m ∈ r.members, m.1 ≤ 2 ∧ m.2.2 < st.length) :
    decodeRel dg st (encodeRel r) = some (relMeaning dg st r) := by
  unfold decodeRel
  simp only [encodeRel, Option.getD_some, undelta_delta, List.length_map, ne_eq, not_true_eq_false, or_self, if_false,
    decodeInfo_encode dg st r.md hs, decodeTags_encode st r.tags ht]
  rw [range_mapM_eq _ (fun m => ({ type := (m.1 : Int), ref := m.2.1, role := st.getD m.2.2 "" } : Member)) r.members]
  · rfl
  · intro i hi
    have h := hm r.members[i] (List.getElem_mem hi)
    simp only [List.getD_eq_getElem?_getD, List.getElem?_map, List.getElem?_eq_getElem hi, Option.map_some, Option.getD_some]
    rw [str_nat st _ h.2]
    have : ¬ (((r.members[i].1 : Nat) : Int) < 0 ∨ ((r.members[i].1 : Nat) : Int) > 2) := by omega
    simp [this]

example : decodeDense 100 1000 0 0 ["", "u", "k", "v"]
    (encodeDense [⟨5, 10, 7, 1, 2, 3, 4, 1, true, [(2, 3)]⟩, ⟨3, -1, 2, 9, 5, 1, 4, 0, false, []⟩]) =
    some [{ id := 5, md := { ver := 1, ts := some 2000, cs := 3, uid := 4, user := "u", vis := true }, lat := 1000, lon := 700, tags := [("k", "v")] },
          { id := 3, md := { ver := 9, ts := some 5000, cs := 1, uid := 4, user := "", vis := false }, lat := -100, lon := 200 }] := by decide
example : decodeDense 100 1000 0 0 ["", "name", "x"] { ids := [5, 2], lat := [10, -3], lon := [7, 1], kv := some [1, 2, 0, 0] } =
    some [{ id := 5, lat := 1000, lon := 700, tags := [("name", "x")] }, { id := 7, lat := 700, lon := 800 }] := by decide
example : undelta [5, 2, -3] = [5, 7, 4] ∧ delta [5, 7, 4] = [5, 2, -3] := by decide

end OsmVerif.Props.C01
