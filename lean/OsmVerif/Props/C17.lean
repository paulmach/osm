import OsmVerif.Props.C16
import OsmVerif.Lemmas.List
/-!
# C17 — GeoJSON conversion maps elements to features exactly; options only subtract

Theorems about `Model.Convert` (hand-written model of osmgeojson/convert.go, tied to the code by the
differential stream through `osmgeojson.Convert` under all option combinations and by an independent
element → feature oracle).
-/

namespace OsmVerif.Props.C17
open OsmVerif.Model.Geo OsmVerif.Model.Convert OsmVerif.Props.C16

/-! ## the shape of the conversion

Each builder is described once, by the condition for a feature and the feature as a `present`, and the relation
pass as a fold of `relBuild`; no theorem below or in C17b, C17c unfolds a builder again (only the member loop
`polyMembers` of `buildPolygon`, for what it leaves in the skippable set: C17c). -/

/-- the tail that `nodeToFeature`, `wayToFeature`, `buildRouteLineString` and `buildPolygon` share: the id string
    unless `NoID`, and what `addMetaProperties` adds for the element (`t`, `id`, `md`): the relations list unless
    `NoRelationMembership`, the meta object unless `NoMeta`. These three options are consulted nowhere else when a
    feature is built. -/
def present (o : Opts) (d : Data) (kind : String) (id : Int) (geom : Geom) (tags : Tags) (tainted : Bool)
    (t : MType) (md : Meta) : Feature :=
  { kind := kind, id := id, idSet := !o.noID, geom := geom, tags := tags, tainted := tainted,
    relations := relationsProp o d t id, metaKeys := metaProp o md }

theorem nodeToFeature_eq (o : Opts) (d : Data) (n : NodeE) :
    nodeToFeature o d n =
      if n.lon = 0 ∧ n.lat = 0 ∧ n.md.version = 0 then none
      else some (present o d "node" n.id (.point (n.lon, n.lat)) (tagMap n.tags) false .node n.md) :=
  rfl

theorem wayToFeature_eq (o : Opts) (d : Data) (isP : WayE → Bool) (w : WayE) :
    wayToFeature o d isP w =
      if (wayToLineString d w).1.length ≤ 1 then none
      else some (present o d "way" w.id
        (if isP w then .polygon [reorientOuter (toRing (wayToLineString d w).1)] else .lineString (wayToLineString d w).1)
        (tagMap w.tags) (wayToLineString d w).2 .way w.md) :=
  rfl

/-- the body of `Convert`'s relation loop: the feature of one relation, if it has one, and the skippable ways
    after it -/
def relBuild (o : Opts) (d : Data) (r : RelationE) (skip : Skip) : Option Feature × Skip :=
  if findTag r.tags "type" = "route" then buildRoute o d r skip
  else if findTag r.tags "type" = "multipolygon" ∨ findTag r.tags "type" = "boundary" then buildPolygon o d r skip
  else (none, skip)

/-- what holds of `relBuild` relation by relation carries over to the pass by `List.foldl_hom`, `List.foldl_rel`
    or `List.foldl_prefix_induction` -/
theorem relationPass_eq_fold (o : Opts) (d : Data) : relationPass o d =
    d.relations.foldl (fun st r => (st.1 ++ (relBuild o d r st.2).1.toList, (relBuild o d r st.2).2)) ([], []) := by
  unfold relationPass relBuild
  congr 1
  funext st r
  by_cases h1 : findTag r.tags "type" = "route"
  · simp only [if_pos h1]
  · by_cases h2 : findTag r.tags "type" = "multipolygon" ∨ findTag r.tags "type" = "boundary"
    · simp only [if_neg h1, if_pos h2]
    · simp only [if_neg h1, if_neg h2, Option.toList_none, List.append_nil]

/-- the body of `buildRouteLineString`'s member loop: the lines collected so far, the tainted flag, the
    skippable ways -/
def routeStep (d : Data) (st : List Seg × Bool × Skip) (m : Member) : List Seg × Bool × Skip :=
  if m.type ≠ .way then st
  else match findWay d m.ref with
    | none => (st.1, true, st.2.2)
    | some way =>
      let skip := if hasInterestingTags way.tags none then st.2.2 else st.2.2 ++ [way.id]
      let (ls, t) := wayToLineString d way
      let tainted := st.2.1 || t
      if ls = [] then (st.1, tainted, skip)
      else (st.1 ++ [Seg.mk' 0 m.orientation ls], tainted, skip)

theorem buildRoute_eq (o : Opts) (d : Data) (r : RelationE) (skip : Skip) :
    buildRoute o d r skip =
      (let st := r.members.foldl (routeStep d) ([], false, skip)
       if st.1 = [] then (none, st.2.2)
       else (some (present o d "relation" r.id
                (match join st.1 with
                 | [one] => Geom.lineString (lineOf one)
                 | _ => Geom.multiLineString ((join st.1).map lineOf))
                (tagMap r.tags) st.2.1 .relation r.md), st.2.2)) := by
  rfl

/-- `buildPolygon`'s variable `geometry`, from what the member loop collected; `none` where the code returns nil
    (no outer member, an invalid single outer ring, no valid outer ring, an empty multipolygon). It is the only
    part of `buildPolygon` that looks at `IncludeInvalidPolygons`. -/
def polyGeom (inc : Bool) (pp : PolyParts) : Option Geom :=
  if pp.outer = [] ∧ ¬ inc then none
  else if pp.outer.length = 1 ∧ pp.outerCount = 1 then
    if ¬ ringValid (ringOf pp.outer 1) then none
    else some (.polygon ([ringOf pp.outer 1] ++ (join pp.inner).map (fun is => ringOf is (-1))))
  else
    let outerRings := (join pp.outer).filterMap fun os =>
      if ¬ inc ∧ ¬ ringValid (ringOf os 1) then none else some [ringOf os 1]
    if outerRings = [] ∧ ¬ inc then none
    else
      match (join pp.inner).foldl (fun mp is => addToMultiPolygon mp (ringOf is (-1)) inc) outerRings with
      | [] => none
      | [single] => some (.polygon single)
      | mp => some (.multiPolygon mp)

/-- `buildPolygon`'s `tagObject` when it is not the relation: the outer way of an "old style" multipolygon (one
    outer member, no interesting tag on the relation but `type`), whose type, id, tags and meta the feature takes
    and which becomes skippable -/
def oldStyleWay (r : RelationE) (pp : PolyParts) : Option WayE :=
  if pp.outer.length = 1 ∧ pp.outerCount = 1 ∧ ¬ hasInterestingTags r.tags (some [("type", findTag r.tags "type")])
  then pp.outerWay else none

/-- `buildPolygon` in the order of the Go code: the member loop, then `geometry` (`polyGeom`), then `tagObject`
    (`oldStyleWay`, else the relation), then the feature of that element (`present`). The model makes the feature
    inside each branch; here the three are separated once. -/
theorem buildPolygon_eq (o : Opts) (d : Data) (r : RelationE) (skip : Skip) :
    buildPolygon o d r skip =
      (let pp := polyMembers d (tagMap r.tags) r.members skip
       match polyGeom o.includeInvalidPolygons pp with
       | none => (none, pp.skip)
       | some geom =>
         match oldStyleWay r pp with
         | some ow => (some (present o d "way" ow.id geom (tagMap ow.tags) pp.tainted .way ow.md), pp.skip ++ [ow.id])
         | none => (some (present o d "relation" r.id geom (tagMap r.tags) pp.tainted .relation r.md), pp.skip)) := by
  unfold buildPolygon polyGeom oldStyleWay
  simp only []
  -- the member loop is made a variable and each condition decided by `by_cases`, then rewritten with
  -- `if_pos`/`if_neg`: `split` simplifies the whole term again at every step, which is slow on a term of this size
  generalize polyMembers d (tagMap r.tags) r.members skip = pp
  by_cases h0 : pp.outer = [] ∧ ¬ o.includeInvalidPolygons = true
  · simp only [if_pos h0]
  · simp only [if_neg h0]
    by_cases h1 : pp.outer.length = 1 ∧ pp.outerCount = 1
    · simp only [if_pos h1]
      by_cases hv : ¬ ringValid (ringOf pp.outer 1) = true
      · simp only [if_pos hv]
      · simp only [if_neg hv]
        by_cases ht : ¬ hasInterestingTags r.tags (some [("type", findTag r.tags "type")]) = true
        · simp only [if_pos (And.intro h1.1 (And.intro h1.2 ht)), if_pos ht]
          cases pp.outerWay <;> rfl
        · simp only [if_neg (fun h : _ ∧ _ ∧ _ => ht h.2.2), if_neg ht]
          cases pp.outerWay <;> rfl
    · simp only [if_neg h1, if_neg (fun h : _ ∧ _ ∧ _ => h1 ⟨h.1, h.2.1⟩)]
      split
      · rfl
      · generalize List.foldl _ _ (join pp.inner) = mp
        match mp with
        | [] => rfl
        | [_] => rfl
        | _ :: _ :: _ => rfl

theorem polyGeom_single {pp : PolyParts} (h1 : pp.outer.length = 1) (hc : pp.outerCount = 1) (inc : Bool) :
    polyGeom inc pp =
      if ¬ ringValid (ringOf pp.outer 1) then none
      else some (.polygon ([ringOf pp.outer 1] ++ (join pp.inner).map (fun is => ringOf is (-1)))) := by
  have he : pp.outer ≠ [] := by intro e; rw [e] at h1; cases h1
  unfold polyGeom
  rw [if_neg (fun h => he h.1), if_pos ⟨h1, hc⟩]

theorem oldStyleWay_eq_none {r : RelationE} {pp : PolyParts} (h : ¬ (pp.outer.length = 1 ∧ pp.outerCount = 1)) :
    oldStyleWay r pp = none :=
  if_neg (fun h' => h ⟨h'.1, h'.2.1⟩)

theorem relationPass_length (o : Opts) (d : Data) : (relationPass o d).1.length ≤ d.relations.length := by
  rw [relationPass_eq_fold]
  refine List.foldl_prefix_induction (motive := fun (st : List Feature × Skip) done => st.1.length ≤ done.length)
    (init := ([], [])) (Nat.le_refl 0) ?_ d.relations
  intro st done r h
  have : (relBuild o d r st.2).1.toList.length ≤ 1 := Option.length_toList_le
  simp only [List.length_append, List.length_cons, List.length_nil]
  omega

/-- **at most one feature per input element**, as a count: the step for a relation, a way or a node yields at most
    one. That features of different elements differ is `features_unique_except_shared_outer` (C17c). -/
theorem one_feature_per_element (o : Opts) (isP : WayE → Bool) (d : Data) :
    (convert o isP d).length ≤ d.relations.length + d.ways.length + d.nodes.length := by
  unfold convert
  simp only [List.length_append]
  have h1 := relationPass_length o d
  have h2 := List.length_filterMap_le (wayPass o d isP (relationPass o d).2) d.ways
  have h3 := List.length_filterMap_le (nodePass o d) d.nodes
  omega

/-- **"at most one feature per input ELEMENT" is false** of the model (and of the code: the same input gives two
    `way/101` features from `osmgeojson.Convert` — the recorded finding `duplicate-way-feature-shared-outer`): two
    old-style multipolygon relations (single outer way, no tags of their own) that share their outer way each
    become a feature with that way's identity. `one_feature_per_element` above is the part that does hold. -/
def exDup : Data := {
  nodes := [],
  ways := [⟨101, [⟨1, 1, 1⟩, ⟨2, 5, 1⟩, ⟨3, 5, 5⟩, ⟨4, 1, 5⟩, ⟨1, 1, 1⟩], [("landuse", "forest")], {}⟩],
  relations := [⟨201, [⟨.way, 101, "outer", 0, []⟩], [("type", "multipolygon")], {}⟩,
                ⟨202, [⟨.way, 101, "outer", 0, []⟩], [("type", "multipolygon")], {}⟩] }
/-- the counterexample described at `exDup` -/
theorem one_feature_per_element_counterexample :
    (convert {} (fun _ => true) exDup).map (fun f => (f.kind, f.id)) = [("way", 101), ("way", 101)] := by decide

/-- **a point for every located node that is not part of a way, or has an interesting tag, or is a relation member** -/
theorem node_feature_iff (o : Opts) (d : Data) (n : NodeE) :
    (nodePass o d n).isSome ↔
      ¬ (n.lon = 0 ∧ n.lat = 0 ∧ n.md.version = 0) ∧
      (isWayMember d n.id = false ∨ membership o d .node n.id ≠ [] ∨ hasInterestingTags n.tags none = true) := by
  have hkeep : (isWayMember d n.id = false ∨ membership o d .node n.id ≠ [] ∨ hasInterestingTags n.tags none = true) ↔
      ¬ (isWayMember d n.id = true ∧ membership o d .node n.id = [] ∧ ¬ hasInterestingTags n.tags none = true) := by
    simp only [Decidable.not_and_iff_not_or_not, Bool.not_eq_true, Bool.not_eq_false, ne_eq]
  rw [hkeep]
  unfold nodePass
  rw [nodeToFeature_eq]
  split
  · next hs => exact ⟨fun h => absurd h Bool.false_ne_true, fun h => absurd hs h.2⟩
  · next hs =>
    split
    · next hl => exact ⟨fun h => absurd h Bool.false_ne_true, fun h => absurd hl h.1⟩
    · next hl => exact ⟨fun _ => ⟨hl, hs⟩, fun _ => rfl⟩

/-- the node's feature carries its type, id, location and tags -/
theorem node_feature_content (o : Opts) (d : Data) (n : NodeE) (f : Feature) (h : nodePass o d n = some f) :
    f.kind = "node" ∧ f.id = n.id ∧ f.geom = .point (n.lon, n.lat) ∧ f.tags = tagMap n.tags ∧ f.idSet = !o.noID := by
  unfold nodePass at h
  split at h
  · cases h
  · rw [nodeToFeature_eq] at h
    split at h
    · cases h
    · cases h
      exact ⟨rfl, rfl, rfl, rfl, rfl⟩

theorem membership_congr (o o' : Opts) (d : Data) (t : MType) (id : Int)
    (h : o.noRelationMembership = o'.noRelationMembership) : membership o d t id = membership o' d t id := by
  unfold membership
  rw [h]

/-- the relation-membership option leaves only way and relation members out of the map -/
theorem membership_node_indep (o o' : Opts) (d : Data) (id : Int) :
    membership o d .node id = membership o' d .node id := by
  unfold membership
  congr 1; funext r
  congr 1; funext m
  by_cases hn : m.type = .node
  · have hpass : ∀ b : Bool, ¬ (b = true ∧ m.type ≠ .node) := fun _ h => h.2 hn
    rw [if_neg (hpass _), if_neg (hpass _)]
  · -- no membership of a node: every branch is `none`
    simp only [if_neg (fun h : m.type = .node ∧ m.ref = id => hn h.1), ite_self]

/-- **a line, or for area ways a closed polygon, over the way's resolvable node coordinates in order** -/
theorem way_feature_geometry (o : Opts) (d : Data) (isP : WayE → Bool) (w : WayE) (f : Feature)
    (h : wayToFeature o d isP w = some f) :
    f.kind = "way" ∧ f.id = w.id ∧ f.tags = tagMap w.tags ∧ f.tainted = (wayToLineString d w).2 ∧
    (wayToLineString d w).1.length ≥ 2 ∧
    f.geom = (if isP w then Geom.polygon [reorientOuter (toRing (wayToLineString d w).1)]
              else Geom.lineString (wayToLineString d w).1) := by
  rw [wayToFeature_eq] at h
  split at h
  · cases h
  · cases h
    exact ⟨rfl, rfl, rfl, rfl, by omega, rfl⟩

/-- the ring built for an area way is closed -/
theorem toRing_closed (ls : List P) (h : 2 ≤ ls.length) : (toRing ls).head? = (toRing ls).getLast? := by
  unfold toRing
  rw [if_neg (Nat.not_lt.mpr h)]
  split
  · -- an open line gets its first point appended, which is then also its last
    match ls, h with
    | a :: b :: t, _ =>
      rw [List.getLast?_append]
      rfl
  · next hc => exact Decidable.not_not.mp hc

/-- … and wound counter-clockwise (when it has area at all) -/
theorem reorientOuter_ccw (r : List P) (hne : r ≠ []) (hclosed : r.head? = r.getLast?) (harea : area2 r ≠ 0) :
    ringOrientation (reorientOuter r) = 1 :=
  ringOrientation_reorient r 1 (.inl rfl) hne hclosed harea

theorem mk'_fresh (i : Nat) (o : Int) (l : List P) : (Seg.mk' i o l).line = (Seg.mk' i o l).full := rfl

/-- **a route relation's joined line geometry preserves every segment of its member ways**: every member
    line is used in exactly one output line (possibly reversed), and each output line has exactly the
    edges of the member lines it is glued from -/
theorem route_preserves_segments (lines : List Seg) (h : FreshInput lines) :
    (((join lines).flatten).map norm).Perm ((compact lines).map norm) ∧ ∀ ms ∈ join lines, Chain ms :=
  ⟨join_partitions_input lines h, join_preserves_edges lines h⟩

/-! ## options only subtract

Every feature is a `present o d …`, so an option that only changes the presentation commutes with each
builder, with the relation pass and with `convert`: one lemma per pass, for any such change `g`. -/

/-- `g` is the whole effect, on the output, of going from the options `o'` to `o` -/
def Presents (g : Feature → Feature) (o o' : Opts) (d : Data) : Prop :=
  ∀ kind id geom tags tainted t md,
    g (present o' d kind id geom tags tainted t md) = present o d kind id geom tags tainted t md

section
variable {g : Feature → Feature} {o o' : Opts} {d : Data}

theorem nodeToFeature_map (hg : Presents g o o' d) (n : NodeE) :
    nodeToFeature o d n = (nodeToFeature o' d n).map g := by
  rw [nodeToFeature_eq, nodeToFeature_eq]
  split
  · rfl
  · exact congrArg some (hg ..).symm

theorem nodePass_map (hg : Presents g o o' d) (n : NodeE) : nodePass o d n = (nodePass o' d n).map g := by
  unfold nodePass
  rw [membership_node_indep o o' d n.id]
  split
  · rfl
  · exact nodeToFeature_map hg n

theorem wayToFeature_map (hg : Presents g o o' d) (isP : WayE → Bool) (w : WayE) :
    wayToFeature o d isP w = (wayToFeature o' d isP w).map g := by
  rw [wayToFeature_eq, wayToFeature_eq]
  split
  · rfl
  · exact congrArg some (hg ..).symm

theorem wayPass_map (hg : Presents g o o' d) (isP : WayE → Bool) (skip : Skip) (w : WayE) :
    wayPass o d isP skip w = (wayPass o' d isP skip w).map g := by
  unfold wayPass
  split
  · rfl
  · exact wayToFeature_map hg isP w

theorem buildRoute_map (hg : Presents g o o' d) (r : RelationE) (skip : Skip) :
    buildRoute o d r skip = ((buildRoute o' d r skip).1.map g, (buildRoute o' d r skip).2) := by
  rw [buildRoute_eq, buildRoute_eq]
  simp only []
  split
  · rfl
  · exact congrArg (fun f => (some f, _)) (hg ..).symm

theorem buildPolygon_map (hg : Presents g o o' d) (hinc : o.includeInvalidPolygons = o'.includeInvalidPolygons)
    (r : RelationE) (skip : Skip) :
    buildPolygon o d r skip = ((buildPolygon o' d r skip).1.map g, (buildPolygon o' d r skip).2) := by
  rw [buildPolygon_eq, buildPolygon_eq, hinc]
  simp only []
  split
  · rfl
  · split
    · exact congrArg (fun f => (some f, _)) (hg ..).symm
    · exact congrArg (fun f => (some f, _)) (hg ..).symm

theorem relBuild_map (hg : Presents g o o' d) (hinc : o.includeInvalidPolygons = o'.includeInvalidPolygons)
    (r : RelationE) (skip : Skip) :
    relBuild o d r skip = ((relBuild o' d r skip).1.map g, (relBuild o' d r skip).2) := by
  unfold relBuild
  split
  · exact buildRoute_map hg r skip
  · split
    · exact buildPolygon_map hg hinc r skip
    · rfl

theorem relationPass_map (hg : Presents g o o' d) (hinc : o.includeInvalidPolygons = o'.includeInvalidPolygons) :
    relationPass o d = ((relationPass o' d).1.map g, (relationPass o' d).2) := by
  rw [relationPass_eq_fold, relationPass_eq_fold]
  refine List.foldl_hom (fun st : List Feature × Skip => (st.1.map g, st.2)) (init := ([], [])) ?_
  intro st r
  simp only [relBuild_map hg hinc r st.2, List.map_append]
  cases (relBuild o' d r st.2).1 <;> rfl

/-- **an option that only changes how features are presented commutes with the whole conversion** -/
theorem convert_map (hg : Presents g o o' d) (hinc : o.includeInvalidPolygons = o'.includeInvalidPolygons)
    (isP : WayE → Bool) : convert o isP d = (convert o' isP d).map g := by
  unfold convert
  simp only [relationPass_map hg hinc, funext (wayPass_map hg isP _), funext (nodePass_map hg),
    List.map_append, List.map_filterMap]

end

theorem relationsProp_of_off {o o' : Opts} (h' : o'.noRelationMembership = false) (d : Data) (t : MType) (id : Int) :
    (if o.noRelationMembership then none else relationsProp o' d t id) = relationsProp o d t id := by
  unfold relationsProp
  cases hr : o.noRelationMembership
  · rw [h', membership_congr o' o d t id (h'.trans hr.symm)]
    rfl
  · rfl

theorem metaProp_of_off {o o' : Opts} (h' : o'.noMeta = false) (m : Meta) :
    (if o.noMeta then none else metaProp o' m) = metaProp o m := by
  unfold metaProp
  rw [h']
  cases o.noMeta <;> rfl

/-- what the three presentation options may change on a feature -/
def restrict (o : Opts) (f : Feature) : Feature :=
  { f with idSet := f.idSet && !o.noID,
           metaKeys := if o.noMeta then none else f.metaKeys,
           relations := if o.noRelationMembership then none else f.relations }

theorem presents_restrict (o : Opts) (d : Data) :
    Presents (restrict o) o { o with noID := false, noMeta := false, noRelationMembership := false } d := by
  intro kind id geom tags tainted t md
  unfold restrict present
  simp only []
  rw [relationsProp_of_off rfl, metaProp_of_off rfl]
  rfl

/-- **NoID, NoMeta and NoRelationMembership change nothing about nodes but what they document**:
    the same nodes are converted, with the same type, id, geometry, tags and taint; only the id string,
    the meta object and the relations list are dropped -/
theorem node_options_only_subtract (o : Opts) (d : Data) (n : NodeE) :
    nodePass o d n = (nodePass { o with noID := false, noMeta := false, noRelationMembership := false } d n).map (restrict o) :=
  nodePass_map (presents_restrict o d) n

/-- … and the same for ways -/
theorem way_options_only_subtract (o : Opts) (d : Data) (isP : WayE → Bool) (w : WayE) :
    wayToFeature o d isP w =
      (wayToFeature { o with noID := false, noMeta := false, noRelationMembership := false } d isP w).map (restrict o) :=
  wayToFeature_map (presents_restrict o d) isP w

def base (o : Opts) : Opts := { o with noID := false, noMeta := false }

/-- what NoID and NoMeta document: the feature id string is not set / the meta object is not added. (`restrict`
    has `f.idSet && !o.noID` where this has `!o.noID`: the same on every feature made with NoID off, which is all
    that either is applied to, since there `f.idSet` is `true`.) -/
def strip (o : Opts) (f : Feature) : Feature :=
  { f with idSet := !o.noID, metaKeys := if o.noMeta then none else f.metaKeys }

theorem presents_strip (o : Opts) (d : Data) : Presents (strip o) o (base o) d := by
  intro kind id geom tags tainted t md
  unfold strip present
  simp only []
  rw [metaProp_of_off rfl]
  rfl

/-- **NoID and NoMeta change nothing but the id string and the meta object — on every feature, relation
    features included, and on the whole output** (order, geometry, tags, relation membership, which elements get
    a feature) -/
theorem convert_noid_nometa (o : Opts) (isP : WayE → Bool) (d : Data) :
    convert o isP d = (convert (base o) isP d).map (strip o) :=
  convert_map (presents_strip o d) rfl isP

def withRels (o : Opts) : Opts := { o with noRelationMembership := false }

def dropRels (o : Opts) (f : Feature) : Feature :=
  { f with relations := if o.noRelationMembership then none else f.relations }

theorem metaProp_withRels (o : Opts) (m : Meta) : metaProp (withRels o) m = metaProp o m := rfl

theorem presents_dropRels (o : Opts) (d : Data) : Presents (dropRels o) o (withRels o) d := by
  intro kind id geom tags tainted t md
  unfold dropRels present
  simp only []
  rw [relationsProp_of_off rfl]
  rfl

/-- **NoRelationMembership removes the relations list and nothing else** — from every feature; which elements get a
    feature (a node's interest through membership included), order, geometry, tags, meta stay as they are -/
theorem convert_norelmembership (o : Opts) (isP : WayE → Bool) (d : Data) :
    convert o isP d = (convert (withRels o) isP d).map (dropRels o) :=
  convert_map (presents_dropRels o d) rfl isP

def exData : Data := {
  nodes := [⟨1, 2, 3, [("name", "x")], { version := 1 }⟩, ⟨2, 5, 5, [], { version := 1 }⟩, ⟨3, 9, 9, [], { version := 1 }⟩],
  ways := [⟨7, [⟨1, 0, 0⟩, ⟨2, 0, 0⟩], [("highway", "path")], {}⟩],
  relations := [] }
example : (convert {} (fun _ => false) exData).map (fun f => (f.kind, f.id)) = [("way", 7), ("node", 1), ("node", 3)] := by decide

end OsmVerif.Props.C17
