import OsmVerif.Model.OsmApi
import OsmVerif.Spec.OsmApiDocumented
import OsmVerif.Lemmas.Text
/-!
# C20 — osmapi calls hit the documented endpoint and map statuses to typed errors

`Gen.OsmApi` (URL recipe, option kind, result selector and guard of every exported `*Datasource`
method; `getFromAPI`'s status chain; facts about the single GET and the limiter) is regenerated
from osmapi/*.go on every run.
-/
namespace OsmVerif.Props.C20
open OsmVerif.Gen.OsmApi OsmVerif.Model.OsmApi OsmVerif.Spec.OsmApi OsmVerif.Model.Text

/-- every exported call uses the documented API v0.6 path recipe, takes the documented kind of options
    and returns the documented part of the response -/
theorem endpoints_eq_documented : endpoints = documented := rfl

/-- exactly one `client.Do`, not inside a loop, and after the limiter wait -/
theorem one_get_after_wait : doCalls = 1 ∧ doInLoop = false ∧ limiterWaitBeforeDo = true := by decide

/-- the request as it stands in the source: the limiter is waited on only when one is set, the request is a GET of
    the given URL carrying the caller's context, and the body is decoded only after every status test has been
    passed — each status branch returns its error without touching `item`, so no partial data comes back -/
theorem request_shape :
    getFromAPIBody = ["client := ds.Client", "if client == nil {", "client = DefaultDatasource.Client", "}",
      "if client == nil {", "client = http.DefaultClient", "}",
      "if ds.Limiter != nil {", "err := ds.Limiter.Wait(ctx)", "if err != nil {", "return err", "}", "}",
      "req, err := http.NewRequest(\"GET\", url, nil)", "if err != nil {", "return err", "}",
      "resp, err := client.Do(req.WithContext(ctx))", "if err != nil {", "return err", "}", "defer resp.Body.Close()",
      "if resp.StatusCode == http.StatusNotFound {", "return &NotFoundError{URL: url}", "}",
      "if resp.StatusCode == http.StatusForbidden {", "return &ForbiddenError{URL: url}", "}",
      "if resp.StatusCode == http.StatusGone {", "return &GoneError{URL: url}", "}",
      "if resp.StatusCode == http.StatusRequestURITooLong {", "return &RequestURITooLongError{URL: url}", "}",
      "if resp.StatusCode != http.StatusOK {", "return &UnexpectedStatusCodeError{ Code: resp.StatusCode, URL: url, }", "}",
      "return xml.NewDecoder(resp.Body).Decode(item)"] := rfl

theorem classifyWith_eq (c : Nat) (err : String) (rest code) :
    classifyWith (("==", c, err) :: rest) code = if code = c then err else classifyWith rest code := by
  simp [classifyWith]

theorem classifyWith_ne (c : Nat) (err : String) (rest code) :
    classifyWith (("!=", c, err) :: rest) code = if code = c then classifyWith rest code else err := by
  simp [classifyWith]

theorem status_ok : classify 200 = "ok" := by decide

/-- **404, 403, 410, 414 map to their own distinct typed errors, anything else to the generic one** -/
theorem status_typed (code : Nat) :
    classify code =
      if code = 404 then "NotFoundError" else if code = 403 then "ForbiddenError"
      else if code = 410 then "GoneError" else if code = 414 then "RequestURITooLongError"
      else if code = 200 then "ok" else "UnexpectedStatusCodeError" := by
  rw [classify, statusChain, classifyWith_eq, classifyWith_eq, classifyWith_eq, classifyWith_eq, classifyWith_ne]
  rfl

/-- **every status other than 200 is an error** -/
theorem status_total (code : Nat) (h : code ≠ 200) : classify code ≠ "ok" := by
  rw [status_typed, if_neg h]
  -- what is left of the chain of `status_typed` (404, 403, 410, 414, else): every branch is a literal other than "ok"
  repeat' split
  all_goals simp

/-- **the not-found test is true only for 404** (`Datasource.NotFound` tests for exactly the 404 error type) -/
theorem notFound_iff (code : Nat) : classify code = notFoundTests ↔ code = 404 := by
  rw [status_typed, show notFoundTests = "NotFoundError" from rfl]
  by_cases h : code = 404
  · simp [h]
  · simp only [h, if_false, iff_false]
    -- the chain of `status_typed` after its first test (403, 410, 414, 200, else): no branch is "NotFoundError"
    repeat' split
    all_goals simp

/-- `X[0]` ↦ `X`: what a selector that returns the first element of a slice indexes -/
def stripIdx0 (l : List Char) : Option (List Char) :=
  match l.reverse with
  | ']' :: '0' :: '[' :: r => some r.reverse
  | _ => none

def guardOk (e : Endpoint) : Bool :=
  match stripIdx0 e.selector.toList with
  | some x => e.guard.toList = "len(".toList ++ x ++ ") != 1".toList
  | none => e.guard = ""

/-- single-element calls (selector `X[0]`) are exactly the ones guarded by `len(X) != 1` -/
theorem single_element_guard : endpoints.all guardOk = true := by decide +kernel

/-- **multi-fetch ids**: splitting the `nodes=` / `ways=` / `relations=` value at the commas gives back
    exactly the requested ids (none lost, merged or reordered) -/
theorem multi_fetch_ids_joined (ids : List Nat) (h : ids ≠ []) (hb : ∀ n ∈ ids, n < 2^63) :
    (splitOn ',' (joinIds (ids.map Int.ofNat))).map parseInt64 = ids.map (fun n => some (Int.ofNat n)) := by
  induction ids with
  | nil => exact absurd rfl h
  | cons i rest ih =>
    have hi := hb i (by simp)
    cases rest with
    | nil =>
      simp only [List.map_cons, List.map_nil, joinIds, Int.ofNat_eq_natCast, showInt_natCast]
      rw [splitOn_of_not_mem _ _ (sep_not_mem_toDigits _ ',')]
      simp [parseInt64_showNat i hi]
    | cons j rest' =>
      have ih' := ih (by simp) (fun n hn => hb n (by simp [hn]))
      simp only [List.map_cons, joinIds, Int.ofNat_eq_natCast, showInt_natCast] at ih' ⊢
      rw [splitOn_append _ _ _ (sep_not_mem_toDigits _ ',')]
      simp only [List.map_cons, parseInt64_showNat i hi]
      rw [ih']

example : (endpoints.find? (·.name = "NodeVersion")).map (fun e => buildURL e ⟨"http://x/api/0.6", [5, 3], [], "", ""⟩)
    = some "http://x/api/0.6/node/5/3" := by decide +kernel

end OsmVerif.Props.C20
