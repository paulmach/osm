import OsmVerif.Props.C12
import OsmVerif.Lemmas.Annotate
import OsmVerif.Lemmas.List
/-!
# C12 (continued) — the tie hypothesis discharged

`compute_order_independent` (C12) gives identical update lists under two iteration orders provided no two
different updates of a parent share index, time and version (`KeysInjective`). Here that is derived from the only
thing it can depend on in the data: within one child's history, version numbers are distinct. (An update's index
is a position in the parent, a position holds one child, and the update of a child version at a position is a
function of that version.) The other hypothesis of `compute_order_independent`, for the child slots (no slot of a
parent is set twice: `Nodup` of the slot indices), is not derived here.
-/
namespace OsmVerif.Props.C12
open OsmVerif.Model.Annotate

def DistinctVersions (hist : Nat → Option (List Child)) : Prop :=
  ∀ fid cl, hist fid = some cl → (cl.map (·.version)).Nodup

theorem rangeUpdates_mem {o : Options} {pidx fid : Nat} {cl : List Child} {idxs : List Nat} {start stop : Nat}
    {us : List Update} (h : rangeUpdates o pidx fid cl idxs start stop = .ok us) {u : Update} (hu : u ∈ us) :
    ∃ c ∈ cl, ∃ j ∈ idxs, u = c.update j := by
  rw [rangeUpdates_eq] at h
  split at h
  · cases h
    obtain ⟨k, _, hk⟩ := List.mem_flatMap.mp hu
    unfold versionUpdates at hk
    split at hk
    · next c hc =>
      obtain ⟨j, hj, rfl⟩ := List.mem_map.mp hk
      exact ⟨c, List.mem_of_getElem? hc, j, hj, rfl⟩
    · cases hk
  · cases h

theorem groupEffect_mem {o : Options} {parents : List ParentV} {fid : Nat} {cl : List Child} {pidx : Nat} {idxs : List Nat}
    {E : Effect} (h : groupEffect o parents fid cl pidx idxs = .ok (some E)) :
    E.parent = pidx ∧ ∀ u ∈ E.updates, ∃ c ∈ cl, ∃ j ∈ idxs, u = c.update j := by
  unfold groupEffect at h
  split at h
  · -- no parent version at `pidx`
    cases h
  · split at h
    · -- the parent version is deleted
      cases h
    · dsimp only at h
      split at h
      · -- no visible child, not ignored
        cases h
      · split at h
        · -- the update loop fails
          cases h
        · next us hus =>
          cases h
          exact ⟨rfl, fun u hu => rangeUpdates_mem hus hu⟩

theorem groupByParent_flatten (locs : List (Nat × Nat)) :
    (groupByParent locs).flatMap (fun g => g.2.map (fun j => (g.1, j))) = locs := by
  fun_induction groupByParent locs with
  | case1 => rfl
  | case2 p j rest js gs hg ih => rw [hg] at ih; rw [← ih]; rfl
  | case3 p j rest p' js gs hg hne ih => rw [hg] at ih; rw [← ih]; rfl
  | case4 p j rest hg ih => rw [hg] at ih; rw [← ih]; rfl

theorem groupByParent_mem {locs : List (Nat × Nat)} {g : Nat × List Nat} (h : g ∈ groupByParent locs)
    {j : Nat} (hj : j ∈ g.2) : (g.1, j) ∈ locs := by
  rw [← groupByParent_flatten locs]
  exact List.mem_flatMap.mpr ⟨g, h, List.mem_map.mpr ⟨j, hj, rfl⟩⟩

theorem childLocs_mem {o : Options} {parents : List ParentV} {fid i j : Nat} (h : (i, j) ∈ childLocs o parents fid) :
    ∃ p, parents[i]? = some p ∧ ∃ ann, p.refs[j]? = some (fid, ann) := by
  unfold childLocs at h
  obtain ⟨⟨p, i'⟩, hpi, hin⟩ := List.mem_flatMap.mp h
  obtain ⟨⟨⟨f, ann⟩, j'⟩, hfj, hsome⟩ := List.mem_filterMap.mp hin
  obtain ⟨hc, hij⟩ := Option.ite_none_right_eq_some.mp hsome
  cases hij
  rw [List.mem_zipIdx_iff_getElem?] at hpi hfj
  exact ⟨p, hpi, ann, by rw [hfj, hc.1]⟩

theorem childEffects_mem {o : Options} {parents : List ParentV} {hist : Nat → Option (List Child)} {fid : Nat}
    {es : List Effect} (h : childEffects o parents hist fid = .ok es) :
    ∀ E ∈ es, ∀ u ∈ E.updates, ∃ cl, hist fid = some cl ∧ ∃ c ∈ cl, ∃ p, parents[E.parent]? = some p ∧
      ∃ ann, p.refs[u.index]? = some (fid, ann) ∧ u = c.update u.index := by
  unfold childEffects at h
  split at h
  · split at h
    · cases h
      exact fun E hE => nomatch hE
    · cases h
  · next cl hcl =>
    -- the statement is an invariant of the fold over the groups of the child's locations
    apply List.foldlM_ok_invariant _ h
    · exact fun E hE => nomatch hE
    · intro acc hacc g hg acc' hstep
      simp only [bind, Except.bind] at hstep
      split at hstep
      · cases hstep
      · next oe hge =>
        cases oe with
        | none => cases hstep; exact hacc
        | some e =>
          cases hstep
          intro E hE u hu
          rcases List.mem_append.mp hE with hE | hE
          · exact hacc E hE u hu
          · cases List.mem_singleton.mp hE
            obtain ⟨hpar, hmem⟩ := groupEffect_mem hge
            obtain ⟨c, hc, j, hj, rfl⟩ := hmem u hu
            obtain ⟨p, hp, ann, hann⟩ := childLocs_mem (groupByParent_mem hg hj)
            exact ⟨cl, hcl, c, hc, p, hpar ▸ hp, ann, hann, rfl⟩

/-- where an update in a parent's list comes from: a version of the child that the parent refers to at the update's
    index -/
theorem update_origin {o : Options} {parents : List ParentV} {hist : Nat → Option (List Child)} {order : List Nat}
    {r : Result} (h : compute o parents hist order = .ok r) {i : Nat} {u : Update} (hu : u ∈ r.updates.getD i []) :
    ∃ fid cl, hist fid = some cl ∧ ∃ c ∈ cl, ∃ p, parents[i]? = some p ∧
      ∃ ann, p.refs[u.index]? = some (fid, ann) ∧ u = c.update u.index := by
  obtain ⟨hall, rfl⟩ := (compute_eq_ok ..).mp h
  rw [resultOf_updates] at hu
  split at hu
  · obtain ⟨E, hE, huE⟩ := List.mem_flatMap.mp ((sortByIndex_perm _).mem_iff.mp hu)
    obtain ⟨hEo, hpar⟩ := List.mem_filter.mp hE
    obtain ⟨fid, hfid, hEf⟩ := List.mem_flatMap.mp hEo
    obtain ⟨es, hes⟩ := hall fid hfid
    rw [okEffects, hes] at hEf
    rw [← of_decide_eq_true hpar]
    exact ⟨fid, childEffects_mem hes E hEf u huE⟩
  · cases hu

/-- **no two different updates of a parent share index, time and version** when version numbers are distinct
    within every child history -/
theorem keys_injective (o : Options) (parents : List ParentV) (hist : Nat → Option (List Child)) (hd : DistinctVersions hist)
    (order : List Nat) (r : Result) (h : compute o parents hist order = .ok r) (i : Nat) :
    KeysInjective (r.updates.getD i []) := by
  intro a ha b hb hidx _ hver
  obtain ⟨fa, cla, hcla, ca, hca, pa, hpa, anna, hra, hua⟩ := update_origin h ha
  obtain ⟨fb, clb, hclb, cb, hcb, pb, hpb, annb, hrb, hub⟩ := update_origin h hb
  -- the same position of the same parent: the same child
  cases Option.some.inj (hpa.symm.trans hpb)
  rw [hidx] at hra
  cases Option.some.inj (hra.symm.trans hrb)
  cases Option.some.inj (hcla.symm.trans hclb)
  -- the same version of that child
  have hce : ca = cb := List.inj_of_nodup_map (hd fa cla hcla) hca hcb (by rw [hua, hub] at hver; exact hver)
  rw [hua, hub, hce, hidx]

/-- **for histories with distinct version numbers every parent's update list is the same under every iteration
    order of the child map** -/
theorem updates_order_independent (o : Options) (parents : List ParentV) (hist : Nat → Option (List Child))
    (hd : DistinctVersions hist) (order1 order2 : List Nat) (hp : order1.Perm order2) (r1 r2 : Result)
    (h1 : compute o parents hist order1 = .ok r1) (h2 : compute o parents hist order2 = .ok r2) (i : Nat) :
    r2.updates.getD i [] = r1.updates.getD i [] :=
  ((compute_order_independent o parents hist order1 order2 hp).2 r1 r2 h1 h2).1 i
    (keys_injective o parents hist hd order1 r1 h1 i)

/-! non-vacuity: a node with three versions, twice in a way with two versions (closed way: positions 0 and 2) -/
def exHist : Nat → Option (List Child) := fun f =>
  if f = 7 then some [
    ⟨1, 10, 0, 1400000000, some 1400000000, 1, 1, true, false⟩,
    ⟨2, 11, 1, 1400000100, some 1400000100, 2, 2, true, false⟩,
    ⟨3, 12, 2, 1400000100, some 1400000100, 3, 3, true, false⟩]
  else none
def exParents : List ParentV := [⟨10, true, 1400000050, some 1400000050, [(7, false), (8, true), (7, false)]⟩]
example : DistinctVersions exHist := by
  intro fid cl h
  unfold exHist at h
  split at h
  · cases h; decide
  · cases h
example : (match compute ⟨1800, false, true, 0⟩ exParents exHist [7, 8] with
    | .ok r => r.updates.map (·.map fun u => (u.index, u.version))
    | .error _ => []) = [[(0, 2), (0, 3), (2, 2), (2, 3)]] := by decide

end OsmVerif.Props.C12
