import OsmVerif.Model.ScanState
import OsmVerif.Lemmas.PipelineStop
import OsmVerif.Lemmas.PbfScan
/-!
# C07 — Close and cancellation stop PBF/XML scans promptly and cleanly

* the call-history contract of `Scan` / `Err` / `Close` / cancellation as a state machine, for ALL histories; the
  Scan/Err/Close bodies of both scanners are the statements the state machine describes;
* the reader goroutine starts no new read once the cancellation is visible at its loop head (loop condition
  read from the source), and the serializer goroutine never writes the consumer's `cData`;
* in the transition system of the cancelled pipeline (`Model.PipelineStop`) every goroutine ends under every
  schedule; its premises (every blocking operation but one has a `Done` branch) are read from the source.
Goroutine termination, bytes consumed and race freedom of the real runtime are what the correspondence
observes (counting reader, goroutine dump, race detector).
-/
namespace OsmVerif.Props.C07
open OsmVerif.Gen.Pbf OsmVerif.Model.ScanState OsmVerif.Model.PbfScan

def posOf (l : List String) (s : String) : Option Nat :=
  let i := (l.takeWhile (· ≠ s)).length
  if i < l.length then some i else none

def infixOf (sub : List Char) : List Char → Bool
  | [] => sub.isEmpty
  | c :: cs => sub.isPrefixOf (c :: cs) || infixOf sub cs

def containsSub (sub s : String) : Bool := infixOf sub.toList s.toList

def segmentAfter (body : List String) (line : String) : Option String := ((body.dropWhile (· ≠ line)).drop 1).head?

theorem scan_stopped (s : S) (h : s.closed = true ∨ s.cancelled = true) : call s .scan = (s, .bool false) := by
  have : s.err.isSome = true ∨ s.closed = true ∨ s.cancelled = true := Or.inr h
  simp [call, this]

theorem call_keeps_stop (s : S) (c : Call) (h : s.closed = true ∨ s.cancelled = true) :
    (call s c).1.closed = true ∨ (call s c).1.cancelled = true := by
  cases c with
  | scan => rw [scan_stopped s h]; exact h
  | err => exact h
  | close => exact Or.inl rfl
  | cancel => exact Or.inr rfl

/-- **after Close or cancellation every later Scan returns false**, whatever else is called in between -/
theorem no_scan_after_stop (s : S) (calls : List Call) (h : s.closed = true ∨ s.cancelled = true) :
    ∀ o ∈ runCalls s calls, ∀ b, o = .bool b → b = false := by
  induction calls generalizing s with
  | nil => intro o ho; cases ho
  | cons c cs ih =>
    intro o ho b hb
    simp only [runCalls, List.mem_cons] at ho
    rcases ho with e | e
    · subst e
      cases c with
      | scan => rw [scan_stopped s h] at hb; cases hb; rfl
      | err => cases hb
      | close => cases hb
      | cancel => cases hb
    · exact ih (call s c).1 (call_keeps_stop s c h) o e b hb

/-- a recorded error is never replaced or cleared -/
theorem recorded_error_sticky (s : S) (calls : List Call) (e : Rec) (h : s.err = some e) :
    (finalState s calls).err = some e := by
  induction calls generalizing s with
  | nil => exact h
  | cons c cs ih =>
    apply ih
    cases c <;> simp [call, h]

/-- **what Err reports**: an error recorded earlier first (the regular end of input as nil), otherwise the
    scanner-closed error after Close, otherwise the context's error after cancellation, otherwise nil -/
theorem err_precedence (s : S) :
    report s = (match s.err with
      | some .eof => .nil_ | some .failure => .failure | some .ctx => .ctx
      | none => if s.closed then .closed else if s.cancelled then .ctx else .nil_) := rfl

/-- **nil only after a complete scan** once the scanner was closed or cancelled -/
theorem nil_only_after_complete (s : S) (h : s.closed = true ∨ s.cancelled = true) (hn : report s = .nil_) :
    s.err = some .eof := by
  unfold report at hn
  rcases s with ⟨_, _, err, closed, cancelled⟩
  cases err with
  | none =>
    rcases h with h | h
    · simp_all
    · cases closed <;> simp_all
  | some e => cases e <;> simp_all

/-- the bodies of Scan / Err / Close of both scanners are the ones the state machine describes -/
theorem scanner_bodies :
    scanBody = ["if !s.started {", "s.started = true", "s.err = s.decoder.Start(s.procs)", "}",
      "if s.err != nil || s.closed || s.ctx.Err() != nil {", "return false", "}", "s.next, s.err = s.decoder.Next()", "return s.err == nil"] ∧
    errBody = ["if s.err == io.EOF {", "return nil", "}", "if s.err != nil {", "return s.err", "}", "if s.closed {",
      "return osm.ErrScannerClosed", "}", "return s.ctx.Err()"] ∧
    closeBody = ["s.closed = true", "return s.decoder.Close()"] ∧
    decoderCloseBody = ["dec.cancel()", "dec.wg.Wait()", "return nil"] ∧
    xmlErrBody = errBody ∧
    xmlCloseBody = ["s.closed = true", "s.done()", "return nil"] ∧
    xmlScanBody.take 8 = ["if s.err != nil {", "return false", "}", "Loop:", "for {", "if s.ctx.Err() != nil {", "return false", "}"] := by
  decide +kernel

/-- the reader loop runs only while the context is live AND no error was met -/
theorem reader_loop_condition : loopCond = .and_ := by
  -- `rw`, not `unfold`: unfolding leaves a cast that the kernel checks by evaluating the `find?` of the model's form
  rw [loopCond]
  simp only [hasPrefix_eq_startsWith]
  decide +kernel

theorem reads_go_le (t fuel iter left : Nat) (e : Bool) (n : Nat) :
    reads.go .and_ t fuel iter left e n ≤ n + (t - iter) := by
  fun_induction reads.go .and_ t fuel iter left e n with
  | case1 | case4 => exact Nat.le_add_right _ _
  | case2 iter _ _ _ _ hc _ ih | case3 iter _ _ _ _ hc _ ih =>
    -- the loop body is entered only while fewer than `t` iterations have begun
    have : iter < t := of_decide_eq_true (Bool.and_eq_true_iff.mp hc).1
    omega

/-- **prompt stop**: with that condition, once the cancellation is visible after `t` loop iterations the reader
    has read at most `t` blocks — it does not go on to consume the rest of the input (a read already in
    progress when the context is cancelled is the one block the model's `t` counts) -/
theorem reader_stops_after_cancel (blocks t : Nat) : reads loopCond blocks t ≤ t := by
  rw [reader_loop_condition]
  have := reads_go_le t (blocks + t + 2) 0 blocks true 0
  simpa [reads] using this

/-- the serializer goroutine reports its end through its own field; no statement of `Start` (reader, decoders,
    serializer) writes the consumer's current block `dec.cData`, and `Next` reads the serializer's error only
    after it has seen the queue closed -/
theorem consumer_state_private :
    startBody.all (fun l => !hasPrefix "dec.cData" l) = true ∧
    startBody.contains "dec.sErr = dec.ctx.Err()" = true ∧
    (match ifBranches nextBody "if !ok || cd.Err == io.EOF {" with
     | some (t, _) => t.contains "if !ok && dec.sErr != nil {" | none => false) = true := by
  simp only [hasPrefix_eq_startsWith]
  decide +kernel

open OsmVerif.Model.PipelineStop in
/-- **after the context is cancelled every goroutine of the pipeline ends, under every schedule**: in the
    transition system of `Model.PipelineStop` (reader before its loop in the bare send of a resumed scan's first
    block, at its loop head or in its select, decoders draining their queues, serializer in either select; any
    queue contents) every step lowers a measure, so no run is longer than the measure of its first state; while a
    goroutine is alive some step is enabled; hence a run that cannot be extended has ended reader, all decoders
    and serializer — `wg.Wait()` in Close returns. Fairness of `select` is needed only for receives from already
    closed output queues and is explicit in the state (`spurious`). -/
theorem goroutines_end (n : Nat) (hn : 0 < n) (s s' : St) (as : List Step) (hc : Consistent s) (h : Run n s as s')
    (hmax : ∀ a, step n s' a = none) : allDone n s' ∧ as.length ≤ mu n s :=
  ⟨maximal_run_ends n hn s s' as hc h hmax, by have := run_bounded n s s' as h; omega⟩

def countOf (l : List String) (x : String) : Nat := (l.filter (· = x)).length

/-- the transition system's premises in the source: every channel operation of `Start`'s goroutines is a `case`
    of a `select` with a `<-dec.ctx.Done()` branch (four selects, four Done branches, no other branch kinds) —
    except one: the send of a resumed scan's first block to decoder 0, which stands before the reader's loop
    (state `first` of the model) and is received by a `for p := range input` that only ends when the queue is
    closed; the reader closes every input queue when it returns, every decoder ranges over its input queue and
    closes its output queue when it returns, the serializer closes the consumer's queue and cancels -/
theorem blocking_ops_have_done_branch :
    countOf startBody "select {" = 4 ∧ countOf startBody "case <-dec.ctx.Done():" = 4 ∧
    countOf startBody "case output <- out:" = 1 ∧ countOf startBody "case input <- pair:" = 1 ∧
    countOf startBody "case p = <-output:" = 1 ∧ countOf startBody "case dec.serializer <- p:" = 1 ∧
    (startBody.filter fun l => hasPrefix "case " l).length = 8 ∧
    (startBody.filter fun l => containsSub "<-" l && !hasPrefix "case " l) = ["dec.inputs[0] <- iPair{Offset: 0, Blob: blob, Err: err}"] ∧
    (match posOf startBody "dec.inputs[0] <- iPair{Offset: 0, Blob: blob, Err: err}", posOf startBody "for dec.ctx.Err() == nil && err == nil {" with
     | some a, some b => decide (a < b) | _, _ => false) = true ∧
    startBody.contains "defer close(output)" = true ∧ startBody.contains "for p := range input {" = true ∧
    segmentAfter startBody "for _, input := range dec.inputs {" = some "close(input)" ∧
    segmentAfter startBody "close(dec.serializer)" = some "dec.cancel()" := by
  -- `hasPrefix` is left as it is here: `containsSub` needs the characters of every statement anyway, and within
  -- one evaluation the kernel decodes each statement once for both filters
  decide +kernel

example : runCalls { remaining := 2, failsAtEnd := false } [.scan, .err, .close, .scan, .err, .cancel, .err] =
    [.bool true, .report .nil_, .unit, .bool false, .report .closed, .unit, .report .closed] := by decide
example : runCalls { remaining := 1, failsAtEnd := false } [.scan, .scan, .close, .err] =
    [.bool true, .bool false, .unit, .report .nil_] := by decide
example : reads .or_ 10 3 = 10 ∧ reads .and_ 10 3 = 3 := by decide

open OsmVerif.Model.PipelineStop in
/-- a resumed scan cancelled at once, two decoders: reader still in its bare first send, one result waiting -/
def exStop : St :=
  { reader := .first, inputsClosed := false, inputs := (fun _ => 0), worker := (fun _ => .idle),
    outputs := (fun w => if w = 1 then 1 else 0), ser := .waiting, spurious := 1 }
open OsmVerif.Model.PipelineStop in
def exSteps : List Step := [.readerFirstSent, .serRecv 1, .readerExit, .workerTake 0, .serSent, .workerSent 0 false,
  .workerExit 0, .workerExit 1, .serDone]
open OsmVerif.Model.PipelineStop in
def runSteps (n : Nat) : St → List Step → Option St
  | s, [] => some s
  | s, a :: as => match step n s a with
    | some s' => runSteps n s' as
    | none => none
open OsmVerif.Model.PipelineStop in
theorem runSteps_run (n : Nat) : ∀ (as : List Step) (s s' : St), runSteps n s as = some s' → Run n s as s' := by
  intro as s s' h
  fun_induction runSteps n s as with
  | case1 => cases h; exact Run.nil _
  | case2 s a as s1 hs ih => exact Run.cons s s1 s' a as hs (ih h)
  | case3 => cases h
open OsmVerif.Model.PipelineStop in
example : Consistent exStop := ⟨by decide, by intro _; rfl, by intro _ w; simp [exStop]⟩
open OsmVerif.Model.PipelineStop in
example : (runSteps 2 exStop exSteps).map (fun s => (s.reader, s.worker 0, s.worker 1, s.ser)) =
    some (.done, .done, .done, .done) := by decide

end OsmVerif.Props.C07
