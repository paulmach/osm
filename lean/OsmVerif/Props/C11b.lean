import OsmVerif.Props.C11
/-!
# C11 (continued) — a child that is not visible when the parent version is committed

With `IgnoreInconsistency` such a child leaves its slot unannotated, and the parent version still gets updates for
it: here it is proved **which** — the versions by *position* in the history, from the first one committed at or
after the parent's commit (position `countBefore cl P`, whatever the version *numbers* are: a history with a gap in
its numbers is no different) up to the usual end of the range, the deleted ones skipped. A seeded change that started
the range from the version number instead of the position (round 6 of Appendix C) is what this statement excludes.
-/
namespace OsmVerif.Props.C11
open OsmVerif.Model.Annotate

def visibleUpdates (cl : List Child) (idxs : List Nat) (k : Nat) : List Update :=
  match cl[k]? with
  | some c => if c.visible then idxs.map (fun i => c.update i) else []
  | none => []

theorem flatMap_visibleUpdates (cl : List Child) (idxs : List Nat) (l : List Nat) :
    l.flatMap (visibleUpdates cl idxs) = (l.filter (visibleAt cl)).flatMap (versionUpdates cl idxs) := by
  induction l with
  | nil => rfl
  | cons k l ih =>
    rw [List.flatMap_cons, List.filter_cons, ih]
    cases hc : cl[k]? with
    | none => simp [visibleUpdates, visibleAt, versionUpdates, hc]
    | some c =>
      by_cases hv : c.visible = true
      · simp [visibleUpdates, visibleAt, versionUpdates, hc, hv]
      · simp [visibleUpdates, visibleAt, hc, hv]

/-- ignoring inconsistencies the update loop never fails -/
theorem rangeUpdates_ignore (o : Options) (hig : o.ignoreInconsistency = true) (pidx fid : Nat) (cl : List Child)
    (idxs : List Nat) : ∀ stop start,
      rangeUpdates o pidx fid cl idxs start stop = .ok ((versionRange start stop).flatMap (visibleUpdates cl idxs)) := by
  intro stop start
  rw [rangeUpdates_eq, hig, flatMap_visibleUpdates]
  rfl

theorem versionBefore_position (cl : List Child) (tl : Timeline cl) (P : Int) :
    (match versionBefore cl P with
      | some n => n.vindex + 1
      | none => 0) = countBefore cl P :=
  -- `countBefore cl P` unfolds to the filter length of `versionBefore_index` at `τ = commitOf`
  tl.placed.versionBefore_index P

/-- **a child that is not visible at the parent's commit** (commit-time regime, `IgnoreInconsistency`): the slot
    stays unannotated and the parent version's updates for it are the visible versions at positions
    `countBefore cl P … nextVersionIndex none …`, in order — positions, not version numbers -/
theorem hidden_child_updates (o : Options) (hig : o.ignoreInconsistency = true) (parents : List ParentV) (fid : Nat)
    (cl : List Child) (tl : Timeline cl) (pidx : Nat) (idxs : List Nat) (p : ParentV) (hp : parents[pidx]? = some p)
    (hvis : p.visible = true) (P : Int) (hP : ParentCommit p P) (hhid : currentAt cl P = none) :
    groupEffect o parents fid cl pidx idxs = .ok (some
      { parent := pidx, sets := [],
        updates := (versionRange (countBefore cl P) (nextVersionIndex none cl parents[pidx + 1]? o)).flatMap
          (visibleUpdates cl idxs) }) := by
  unfold groupEffect
  simp only [hp, hvis, not_true_eq_false, if_false, parentTime hP, child_is_current_at_commit cl tl, hhid,
    Option.isNone_none, hig, not_true_eq_false, and_false, if_false]
  rw [rangeUpdates_ignore o hig, ← versionBefore_position cl tl P]
  rfl

/-! non-vacuity: versions numbered 1, 3, 4 (2 is gone), the child deleted when the way is committed and undeleted
later: the update is version 4, found at position 2 -/
def exGap : List Child := [
  ⟨1, 11, 0, 1400000000, some 1400000000, 1, 1, true, false⟩,
  ⟨3, 13, 1, 1400000600, some 1400000600, 0, 0, false, false⟩,
  ⟨4, 14, 2, 1400001800, some 1400001800, 4, 4, true, false⟩]
def exGapParents : List ParentV := [⟨20, true, 1400001200, some 1400001200, [(7, false)]⟩]

theorem exGap_timeline : Timeline exGap :=
  ⟨commitRegime_of (by decide), by unfold CommitSorted; decide, wellIndexed_of_map (by decide)⟩

example : currentAt exGap 1400001200 = none := by decide
example : countBefore exGap 1400001200 = 2 := by decide
example : (match groupEffect ⟨1800, true, false, 0⟩ exGapParents 7 exGap 0 [1] with
    | .ok (some e) => (e.sets.length, e.updates.map (fun u => (u.index, u.version)))
    | _ => (9, [])) = (0, [(1, 4)]) := by decide

end OsmVerif.Props.C11
