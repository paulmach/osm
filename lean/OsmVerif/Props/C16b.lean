import OsmVerif.Props.C16
import OsmVerif.Lemmas.List
/-!
# C16 (continued) — cutting rings gives pieces that meet the end-point condition

The hypothesis of `cut_rings_condition` (C16) is discharged for the thing the property talks about: any number of
simple rings with pairwise distinct vertices (no vertex twice in a ring, none shared between rings), each cut at
one or more of its vertices into pieces that run from one cut vertex to the next (the last piece wrapping around
to the first cut). Then, whatever pieces are reversed and in whatever order they are listed, every group `Join`
builds is closed.
-/
namespace OsmVerif.Props.C16
open OsmVerif.Model.Geo

/-- the piece of the vertex cycle `vs` from position `a` to position `b` inclusive, wrapping around when `b ≤ a` -/
def piece (vs : List P) (a b : Nat) : List P :=
  if a < b then (vs.drop a).take (b - a + 1) else vs.drop a ++ vs.take (b + 1)

def cutPairs (cuts : List Nat) : List (Nat × Nat) := cuts.zip (cuts.tail ++ cuts.take 1)

/-- the pieces of the ring over the vertex cycle `vs` (the ring is `vs ++ [vs[0]]`) cut at the positions `cuts` -/
def cutRing (vs : List P) (cuts : List Nat) : List (List P) := (cutPairs cuts).map fun ab => piece vs ab.1 ab.2

theorem piece_head (vs : List P) (a b : Nat) (ha : a < vs.length) : (piece vs a b).head? = vs[a]? := by
  unfold piece
  split
  · rw [List.head?_take, if_neg (Nat.succ_ne_zero _), List.head?_drop]
  · rw [List.head?_append, List.head?_drop, List.getElem?_eq_getElem ha]
    rfl

theorem piece_last (vs : List P) (a b : Nat) (hb : b < vs.length) : (piece vs a b).getLast? = vs[b]? := by
  unfold piece
  split
  · rw [List.getLast?_take, if_neg (Nat.succ_ne_zero _), Nat.add_sub_cancel, List.getElem?_drop,
      Nat.add_sub_cancel' (by omega), List.getElem?_eq_getElem hb]
    rfl
  · rw [List.getLast?_append, List.getLast?_take, if_neg (Nat.succ_ne_zero _), Nat.add_sub_cancel,
      List.getElem?_eq_getElem hb]
    rfl

theorem cutPairs_length (cuts : List Nat) (hne : cuts ≠ []) : (cuts.tail ++ cuts.take 1).length = cuts.length := by
  obtain ⟨c, t, rfl⟩ := List.exists_cons_of_ne_nil hne
  simp

theorem cutPairs_fst (cuts : List Nat) (hne : cuts ≠ []) : (cutPairs cuts).map (·.1) = cuts :=
  List.map_fst_zip (Nat.le_of_eq (cutPairs_length cuts hne).symm)

theorem cutPairs_snd (cuts : List Nat) (hne : cuts ≠ []) : (cutPairs cuts).map (·.2) = cuts.tail ++ cuts.take 1 :=
  List.map_snd_zip (Nat.le_of_eq (cutPairs_length cuts hne))

theorem cutPairs_mem (cuts : List Nat) (ab : Nat × Nat) (h : ab ∈ cutPairs cuts) : ab.1 ∈ cuts ∧ ab.2 ∈ cuts := by
  unfold cutPairs at h
  have := List.of_mem_zip h
  refine ⟨this.1, ?_⟩
  rcases List.mem_append.mp this.2 with h2 | h2
  · exact List.mem_of_mem_tail h2
  · exact List.mem_of_mem_take h2

/-- a ring over the vertex cycle `vs`, cut at the positions `cuts` -/
structure CutRing where
  vs : List P
  cuts : List Nat

/-- a single cut gives one piece, the whole ring from the cut vertex round to itself -/
def CutRing.Valid (r : CutRing) : Prop :=
  r.cuts ≠ [] ∧ r.cuts.Pairwise (· < ·) ∧ ∀ c ∈ r.cuts, c < r.vs.length

def CutRing.pieces (r : CutRing) : List (List P) := cutRing r.vs r.cuts

/-- the vertex at position `c`, total so that `starts` and `stops` are plain lists of points; the default is never
    reached at a cut of a valid ring (`vertexAt_eq`) -/
def vertexAt (vs : List P) (c : Nat) : P := vs[c]?.getD (0, 0)

theorem vertexAt_eq {vs : List P} {c : Nat} (h : c < vs.length) : vertexAt vs c = vs[c] := by
  unfold vertexAt
  rw [List.getElem?_eq_getElem h]
  rfl

def CutRing.starts (r : CutRing) : List P := r.cuts.map (vertexAt r.vs)
def CutRing.stops (r : CutRing) : List P := (r.cuts.tail ++ r.cuts.take 1).map (vertexAt r.vs)

/-- an end of each piece (`e`: first or last point) is the vertex at the corresponding end of its cut pair -/
theorem CutRing.pieces_map (r : CutRing) (e : List P → Option P) (π : Nat × Nat → Nat)
    (he : ∀ ab ∈ cutPairs r.cuts, e (piece r.vs ab.1 ab.2) = some (vertexAt r.vs (π ab))) :
    r.pieces.map e = (((cutPairs r.cuts).map π).map (vertexAt r.vs)).map some := by
  unfold CutRing.pieces cutRing
  simp only [List.map_map]
  exact List.map_congr_left he

theorem CutRing.pieces_head (r : CutRing) (hv : r.Valid) : r.pieces.map List.head? = r.starts.map some := by
  rw [r.pieces_map List.head? (·.1), cutPairs_fst r.cuts hv.1]
  · rfl
  · intro ab hab
    have ha := hv.2.2 _ (cutPairs_mem r.cuts ab hab).1
    rw [piece_head r.vs ab.1 ab.2 ha, vertexAt_eq ha, List.getElem?_eq_getElem ha]

theorem CutRing.pieces_last (r : CutRing) (hv : r.Valid) : r.pieces.map List.getLast? = r.stops.map some := by
  rw [r.pieces_map List.getLast? (·.2), cutPairs_snd r.cuts hv.1]
  · rfl
  · intro ab hab
    have hb := hv.2.2 _ (cutPairs_mem r.cuts ab hab).2
    rw [piece_last r.vs ab.1 ab.2 hb, vertexAt_eq hb, List.getElem?_eq_getElem hb]

theorem CutRing.starts_perm_stops (r : CutRing) (hv : r.Valid) : r.starts.Perm r.stops := by
  unfold CutRing.starts CutRing.stops
  apply List.Perm.map
  cases hc : r.cuts with
  | nil => exact absurd hc hv.1
  | cons h t =>
    simp only [List.tail_cons, List.take_succ_cons, List.take_zero]
    exact (List.perm_append_comm (l₁ := [h]) (l₂ := t))

theorem CutRing.starts_sub (r : CutRing) (hv : r.Valid) : ∀ p ∈ r.starts, p ∈ r.vs := by
  intro p hp
  unfold CutRing.starts at hp
  obtain ⟨c, hc, rfl⟩ := List.mem_map.mp hp
  rw [vertexAt_eq (hv.2.2 c hc)]
  exact List.getElem_mem _

theorem CutRing.starts_nodup (r : CutRing) (hv : r.Valid) (hnd : r.vs.Nodup) : r.starts.Nodup := by
  unfold CutRing.starts
  rw [List.Nodup, List.pairwise_map]
  refine List.Pairwise.imp_of_mem ?_ hv.2.1
  intro a b ha hb hab
  rw [vertexAt_eq (hv.2.2 a ha), vertexAt_eq (hv.2.2 b hb)]
  exact List.pairwise_iff_getElem.mp hnd a b _ _ hab

theorem rings_starts_nodup (rings : List CutRing) (hv : ∀ r ∈ rings, r.Valid) (hnd : (rings.flatMap (·.vs)).Nodup) :
    (rings.flatMap (·.starts)).Nodup := by
  obtain ⟨hin, hacross⟩ := List.pairwise_flatMap.mp hnd
  refine List.pairwise_flatMap.mpr ⟨fun r hr => r.starts_nodup (hv r hr) (hin r hr), hacross.imp_of_mem ?_⟩
  intro r r' hr hr' h x hx y hy
  exact h x (r.starts_sub (hv r hr) x hx) y (r'.starts_sub (hv r' hr') y hy)

theorem rings_starts_perm (rings : List CutRing) (hv : ∀ r ∈ rings, r.Valid) :
    (rings.flatMap (·.starts)).Perm (rings.flatMap (·.stops)) :=
  List.perm_flatMap_left rings fun r hr => r.starts_perm_stops (hv r hr)

theorem map_flatMap_congr {α β γ δ} {l : List α} {f : α → List β} {f' : α → List γ} {g : β → δ} {g' : γ → δ}
    (h : ∀ a ∈ l, (f a).map g = (f' a).map g') : (l.flatMap f).map g = (l.flatMap f').map g' := by
  rw [List.map_flatMap, List.map_flatMap, List.flatMap_def, List.flatMap_def, List.map_congr_left h]

/-- **pieces cut from vertex-disjoint simple rings meet the end-point condition, reversed and shuffled at will**:
    `segs` are segments whose full lines are the pieces of the rings (any member index and orientation annotation) -/
theorem cut_rings_deg (rings : List CutRing) (hv : ∀ r ∈ rings, r.Valid) (hnd : (rings.flatMap (·.vs)).Nodup)
    (segs : List Seg) (hfull : segs.map (·.full) = rings.flatMap (·.pieces))
    (flip : Seg → Bool) (shuffled : List Seg)
    (hsh : (segs.map fun s => if flip s then s.rev else s).Perm shuffled) : DegR shuffled := by
  refine cut_rings_condition segs (rings.flatMap (·.starts)) (rings.flatMap (·.stops)) ?_ ?_
    (rings_starts_perm rings hv) (rings_starts_nodup rings hv hnd) flip shuffled hsh
  · rw [← map_flatMap_congr fun r hr => CutRing.pieces_head r (hv r hr), ← hfull, List.map_map]; rfl
  · rw [← map_flatMap_congr fun r hr => CutRing.pieces_last r (hv r hr), ← hfull, List.map_map]; rfl

theorem piece_length (vs : List P) (a b : Nat) (ha : a < vs.length) (hb : b < vs.length) : 2 ≤ (piece vs a b).length := by
  unfold piece
  split
  · simp only [List.length_take, List.length_drop]; omega
  · simp only [List.length_append, List.length_take, List.length_drop]; omega

theorem CutRing.pieces_length (r : CutRing) (hv : r.Valid) : ∀ l ∈ r.pieces, 2 ≤ l.length := by
  intro l hl
  unfold CutRing.pieces cutRing at hl
  obtain ⟨ab, hab, rfl⟩ := List.mem_map.mp hl
  have := cutPairs_mem r.cuts ab hab
  exact piece_length r.vs ab.1 ab.2 (hv.2.2 _ this.1) (hv.2.2 _ this.2)

/-- the shuffled, partly reversed pieces are what `Join` expects: untrimmed, two points or more, meeting the
    end-point condition -/
theorem cut_rings_input (rings : List CutRing) (hv : ∀ r ∈ rings, r.Valid) (hnd : (rings.flatMap (·.vs)).Nodup)
    (segs : List Seg) (hline : FreshInput segs) (hfull : segs.map (·.full) = rings.flatMap (·.pieces))
    (flip : Seg → Bool) (shuffled : List Seg)
    (hsh : (segs.map fun s => if flip s then s.rev else s).Perm shuffled) :
    FreshInput shuffled ∧ DegR (compact shuffled) := by
  have hfresh : ∀ s' ∈ shuffled, Fresh s' := by
    intro s' hs'
    obtain ⟨s, hs, rfl⟩ := List.mem_map.mp (hsh.mem_iff.mpr hs')
    have hin : s.full ∈ rings.flatMap (·.pieces) := hfull ▸ List.mem_map_of_mem hs
    obtain ⟨r, hr, hp⟩ := List.mem_flatMap.mp hin
    have hf : Fresh s := ⟨hline s hs, hline s hs ▸ r.pieces_length (hv r hr) _ hp⟩
    split
    · exact fresh_rev s hf
    · exact hf
  have hcompact : compact shuffled = shuffled :=
    List.filter_eq_self.mpr fun s hs => decide_eq_true (hfresh s hs).2
  exact ⟨fun s hs => (hfresh s hs).1, by rw [hcompact]; exact cut_rings_deg rings hv hnd segs hfull flip shuffled hsh⟩

/-- **every group `Join` builds from pieces cut from vertex-disjoint simple rings is closed** — any number of rings,
    any cut positions, any pieces reversed, the pieces listed in any order. `segs` are the member segments as
    `buildPolygon` makes them (`line = full`, any member index and orientation annotation), their lines being the
    pieces of the rings. -/
theorem cut_rings_join_closed (rings : List CutRing) (hv : ∀ r ∈ rings, r.Valid) (hnd : (rings.flatMap (·.vs)).Nodup)
    (segs : List Seg) (hline : FreshInput segs) (hfull : segs.map (·.full) = rings.flatMap (·.pieces))
    (flip : Seg → Bool) (shuffled : List Seg)
    (hsh : (segs.map fun s => if flip s then s.rev else s).Perm shuffled) :
    ∀ g ∈ join shuffled, msFirst g = msLast g := by
  have h := cut_rings_input rings hv hnd segs hline hfull flip shuffled hsh
  exact join_groups_closed shuffled h.1 h.2

/-- and each group is a whole connected component: no piece outside a group touches it -/
theorem cut_rings_join_components (rings : List CutRing) (hv : ∀ r ∈ rings, r.Valid) (hnd : (rings.flatMap (·.vs)).Nodup)
    (segs : List Seg) (hline : FreshInput segs) (hfull : segs.map (·.full) = rings.flatMap (·.pieces))
    (flip : Seg → Bool) (shuffled : List Seg)
    (hsh : (segs.map fun s => if flip s then s.rev else s).Perm shuffled)
    (l1 : List (List Seg)) (g : List Seg) (l2 : List (List Seg)) (hout : join shuffled = l1 ++ g :: l2) :
    ∀ p ∈ g.flatMap ends, p ∉ (l1 ++ l2).flatten.flatMap ends := by
  have h := cut_rings_input rings hv hnd segs hline hfull flip shuffled hsh
  exact join_groups_are_components shuffled h.1 h.2 l1 g l2 hout

/-- the group as members without orientation annotation give it (`orientation = 0` stands for "none") -/
def unannotated (ms : List Seg) : List Seg := ms.map fun s => { s with orientation := 0 }

theorem lineOf_unannotated (ms : List Seg) : lineOf (unannotated ms) = lineOf ms := by
  unfold lineOf unannotated
  rw [List.map_map]; rfl

/-- **the ring is the same with or without orientation annotations**, when the annotations are the ones annotation
    writes for this group (`orientation_annotation`) and the group encloses an area: `Ring(o)` turns the line around
    in exactly the same cases -/
theorem ringOf_annotations_agree (ms : List Seg) (o : Int) (ho : o = 1 ∨ o = -1) (hne : ms ≠ [])
    (harea : area2 (lineOf ms) ≠ 0)
    (hann : ∀ s ∈ ms, s.orientation = if s.reversed then - msOrientation ms else msOrientation ms) :
    ringOf ms o = ringOf (unannotated ms) o := by
  have hg := msOrientation_cases ms
  have hg0 : msOrientation ms ≠ 0 := by rcases hg with h | h <;> rw [h] <;> decide
  -- every member's test says "the group's winding is not the one asked for"
  have htest : ∀ s ∈ ms, (s.orientation ≠ 0 ∧ (decide (s.orientation = o) = s.reversed)) ↔ msOrientation ms ≠ o := by
    intro s hs
    rw [hann s hs]
    cases s.reversed
    · simp only [Bool.false_eq_true, if_false, decide_eq_false_iff_not]
      exact and_iff_right hg0
    · simp only [if_true, decide_eq_true_eq]
      rw [neg_eq_iff_ne hg ho]
      exact and_iff_right (Int.neg_ne_zero.mpr hg0)
  have hany := List.any_eq_decide hne (fun s : Seg => s.orientation ≠ 0 ∧ (decide (s.orientation = o) = s.reversed)) _ htest
  have hhave : (ms.any fun s => decide (s.orientation ≠ 0)) = decide True := by
    refine List.any_eq_decide hne (fun s : Seg => s.orientation ≠ 0) True (fun s hs => iff_of_true ?_ trivial)
    rw [hann s hs]
    split
    · exact Int.neg_ne_zero.mpr hg0
    · exact hg0
  have hnone : ∀ s ∈ unannotated ms, s.orientation = 0 := by
    intro x hx
    obtain ⟨s, _, rfl⟩ := List.mem_map.mp hx
    rfl
  rw [ringOf_unoriented hnone, lineOf_unannotated, ringOrientation_lineOf ms harea]
  unfold ringOf
  simp only [hhave, hany, ringOrientation_lineOf ms harea, decide_true, true_and, not_true_eq_false, false_and, or_false,
    decide_eq_true_eq]

/-! non-vacuity: a square cut at three of its corners and a triangle cut at one vertex -/
def exRings : List CutRing := [⟨[(0,0),(4,0),(4,4),(0,4)], [0, 1, 3]⟩, ⟨[(1,1),(2,1),(1,2)], [2]⟩]
example : ∀ r ∈ exRings, r.Valid := by
  intro r hr
  simp only [exRings, List.mem_cons, List.not_mem_nil, or_false] at hr
  rcases hr with rfl | rfl
  · exact ⟨by decide, by decide, by decide⟩
  · exact ⟨by decide, by decide, by decide⟩
example : (exRings.flatMap (·.vs)).Nodup := by decide
example : exRings.flatMap (·.pieces) =
    [[(0,0),(4,0)], [(4,0),(4,4),(0,4)], [(0,4),(0,0)], [(1,2),(1,1),(2,1),(1,2)]] := by decide

/-- the square's three pieces and the triangle's single piece, two of them reversed, shuffled: two closed groups -/
def exCutSegs : List Seg := [
  (Seg.mk' 3 0 [(1,2),(1,1),(2,1),(1,2)]), (Seg.mk' 1 0 [(4,0),(4,4),(0,4)]).rev, Seg.mk' 0 0 [(0,0),(4,0)], (Seg.mk' 2 0 [(0,4),(0,0)]).rev]
example : (join exCutSegs).map (fun g => (msFirst g, msLast g)) =
    [(some (0,0), some (0,0)), (some (1,2), some (1,2))] := by decide

/-- a counter-clockwise square in two pieces, the second one turned around by the join: annotated as annotation
    writes them (+1 for the piece in its own direction, -1 for the reversed one) -/
def exAnn : List Seg := [
  { idx := 0, orientation := 1, reversed := false, line := [(0,0),(4,0),(4,4)], full := [(0,0),(4,0),(4,4)] },
  { idx := 1, orientation := -1, reversed := true, line := [(0,4),(0,0)], full := [(4,4),(0,4),(0,0)] }]
example : msOrientation exAnn = 1 ∧ area2 (lineOf exAnn) ≠ 0 := by decide
example : ∀ s ∈ exAnn, s.orientation = if s.reversed then - msOrientation exAnn else msOrientation exAnn := by
  intro s hs
  simp only [exAnn, List.mem_cons, List.not_mem_nil, or_false] at hs
  rcases hs with rfl | rfl <;> decide
example : ringOf exAnn (-1) = ringOf (unannotated exAnn) (-1) ∧ ringOf exAnn (-1) = [(0,0),(0,4),(4,4),(4,0),(0,0)] := by decide

end OsmVerif.Props.C16
