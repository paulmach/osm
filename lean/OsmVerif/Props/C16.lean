import OsmVerif.Lemmas.Geo
import OsmVerif.Lemmas.GeoClosed
import OsmVerif.Model.Convert
/-!
# C16 — multipolygon assembly: every piece used once, glued at shared points, nothing lost or invented

Theorems about `Model.Geo` / `Model.Convert` (hand-written models of internal/mputil and
osmgeojson/build_polygon.go, tied to the code by the differential stream through
`osmgeojson.Convert` and by a ground-truth ring oracle over all cut/reverse/order choices of small
instances).
-/
namespace OsmVerif.Props.C16
open OsmVerif.Model.Geo OsmVerif.Model.Convert

/-- segments as `buildPolygon`, `buildRouteLineString` and `Group` hand them to `Join` -/
def FreshInput (segs : List Seg) : Prop := ∀ s ∈ segs, s.line = s.full

theorem compact_fresh (segs : List Seg) (h : FreshInput segs) : ∀ s ∈ compact segs, Fresh s := by
  intro s hs
  have := List.mem_filter.mp hs
  exact ⟨h s this.1, of_decide_eq_true this.2⟩

/-- **every input segment appears in exactly one output, possibly reversed** (`norm` forgets direction
    and trimming): for every list of member lines, any size, any order -/
theorem join_partitions_input (segs : List Seg) (h : FreshInput segs) :
    (((join segs).flatten).map norm).Perm ((compact segs).map norm) :=
  joinAux_perm _ _ (Nat.le_refl _)

/-- **pieces are joined only at shared end points, and no coordinate is lost, duplicated or invented**:
    in every output group all pieces are non-empty and the edges (consecutive point pairs) of its
    line string are exactly the edges of its members' complete lines -/
theorem join_preserves_edges (segs : List Seg) (h : FreshInput segs) :
    ∀ ms ∈ join segs, Chain ms :=
  joinAux_chain _ _ (Nat.le_refl _) (compact_fresh segs h)

/-- the `reversed` flag records exactly whether a piece was turned around relative to how it entered -/
theorem rev_flag (s : Seg) : s.rev.reversed = !s.reversed ∧ s.rev.full = s.full.reverse ∧ s.rev.rev = s := by
  cases s; simp [Seg.rev]

/-- **termination**: with the fuel `Join` gives it (the number of remaining segments) a group stops growing
    only because it is closed, nothing is left, or no remaining segment touches either end — never for lack of fuel -/
theorem grow_complete : ∀ f cur segs, segs.length ≤ f →
    let r := grow f cur segs
    r.2 = [] ∨ msFirst r.1 = msLast r.1 ∨ findMatch r.1 r.2 0 = none :=
  fun f cur segs h => Or.inr (grow_stops f cur segs h)

theorem place_append (ring : List P) (pre rest : List (List (List P)))
    (hpre : ∀ q ∈ pre, polygonContains (q.headD []) ring = false) :
    addToMultiPolygon.place ring (pre ++ rest) = (addToMultiPolygon.place ring rest).map (pre ++ ·) := by
  induction pre with
  | nil =>
    rw [List.nil_append]
    cases addToMultiPolygon.place ring rest with
    | none => rfl
    | some r => rfl
  | cons q qs ih =>
    have hq := hpre q List.mem_cons_self
    rw [List.cons_append, addToMultiPolygon.place, if_neg (by rw [hq]; exact Bool.false_ne_true),
      ih fun x hx => hpre x (List.mem_cons_of_mem q hx), Option.map_map]
    rfl

/-- **each hole goes to the first outer that contains it**, the other polygons are untouched -/
theorem hole_assigned (pre : List (List (List P))) (poly : List (List P)) (post : List (List (List P)))
    (ring : List P) (inc : Bool)
    (hpre : ∀ q ∈ pre, polygonContains (q.headD []) ring = false)
    (hin : polygonContains (poly.headD []) ring = true) :
    addToMultiPolygon (pre ++ poly :: post) ring inc = pre ++ (poly ++ [ring]) :: post := by
  unfold addToMultiPolygon
  rw [place_append ring pre _ hpre, addToMultiPolygon.place, if_pos hin]
  rfl

/-- a hole contained in no outer is dropped (unless invalid polygons are asked for): nothing is invented -/
theorem hole_without_outer (mp : List (List (List P))) (ring : List P)
    (h : ∀ q ∈ mp, polygonContains (q.headD []) ring = false) :
    addToMultiPolygon mp ring false = mp := by
  have hnone : addToMultiPolygon.place ring mp = none := by
    rw [← List.append_nil mp, place_append ring mp [] h]
    rfl
  unfold addToMultiPolygon
  rw [hnone]
  simp

/-- the way node as an annotated way carries it (package `annotate` fills in `WayNode.Lat/Lon`): with the
    coordinates of the node object `wayToLineString` would look up for it, the last of that id in `d.nodes` -/
def locate (d : Data) (wn : WayNode) : WayNode :=
  match (d.nodes.filter (fun n => n.id = wn.id)).getLast? with
  | some n => { wn with lon := n.lon, lat := n.lat }
  | none => wn

/-- the inline coordinates `locate` wrote are the ones `wlStep` would have fetched: they are not (0, 0), so `wlStep`
    takes them and never consults `d.nodes` -/
theorem wlStep_locate (d : Data) (acc : List P × Bool) (wn : WayNode) (hlon : wn.lon = 0) (hlat : wn.lat = 0) (n : NodeE)
    (hn : (d.nodes.filter (fun n => n.id = wn.id)).getLast? = some n) (hloc : n.lon ≠ 0 ∨ n.lat ≠ 0) :
    wlStep { d with nodes := [] } acc (locate d wn) = wlStep d acc wn := by
  unfold wlStep locate
  simp only [hn, hlon, hlat]
  rcases hloc with h | h <;> simp [h]

/-- **the same geometry whether node locations come from separate node objects or from annotated way nodes**
    (no vertex at lon = 0, lat = 0, which means "no location") -/
theorem coords_source_independent (d : Data) (w : WayE)
    (hnodes : ∀ wn ∈ w.nodes, wn.lon = 0 ∧ wn.lat = 0 ∧
      ∃ n, (d.nodes.filter (fun n => n.id = wn.id)).getLast? = some n ∧ (n.lon ≠ 0 ∨ n.lat ≠ 0)) :
    wayToLineString { d with nodes := [] } { w with nodes := w.nodes.map (locate d) } = wayToLineString d w := by
  unfold wayToLineString
  rw [List.foldl_map]
  refine List.foldl_rel (r := Eq) rfl ?_
  rintro wn hwn acc _ rfl
  obtain ⟨hlon, hlat, n, hn, hloc⟩ := hnodes wn hwn
  exact wlStep_locate d acc wn hlon hlat n hn hloc

/-- **outers counter-clockwise, inners clockwise**: when the members carry no orientation annotation,
    `Ring(o)` of a closed group with non-zero area has exactly the requested winding -/
theorem ring_orientation (ms : List Seg) (o : Int) (ho : o = 1 ∨ o = -1)
    (hno : ∀ s ∈ ms, s.orientation = 0)
    (hne : lineOf ms ≠ []) (hclosed : (lineOf ms).head? = (lineOf ms).getLast?)
    (harea : area2 (lineOf ms) ≠ 0) :
    ringOrientation (ringOf ms o) = o := by
  rw [ringOf_unoriented hno]
  exact ringOrientation_reorient _ o ho hne hclosed harea

/-- **annotation marks every way member with the direction in which that way runs around its ring**:
    whichever winding was asked for, a member traversed in its own direction gets the winding of the
    joined ring, a member that had to be turned around gets the opposite one -/
theorem orientation_annotation (ms : List Seg) (o : Int) (ho : o = 1 ∨ o = -1) :
    annotateOrientation ms o = ms.map (fun s => (s.idx, if s.reversed then - msOrientation ms else msOrientation ms)) := by
  -- the factor turns the winding asked for into the winding the group has
  have hfac : (if msOrientation ms ≠ o then (-1 : Int) else 1) * o = msOrientation ms := by
    by_cases h : msOrientation ms = o
    · rw [if_neg (fun hn => hn h), Int.one_mul, h]
    · rw [if_pos h, Int.neg_one_mul]
      exact (neg_eq_iff_ne ho (msOrientation_cases ms)).mpr (Ne.symm h)
  unfold annotateOrientation
  apply List.map_congr_left
  intro s _
  rw [Int.mul_assoc, hfac, Int.neg_one_mul]

/-- **every group `Join` builds from cut rings is closed**: if every end point of the pieces is shared by exactly two
    piece ends, no group is left open — for every number of rings and pieces, any cut positions, any directions
    and any order of the members -/
theorem join_groups_closed (segs : List Seg) (h : FreshInput segs) (hd : DegR (compact segs)) :
    ∀ g ∈ join segs, msFirst g = msLast g :=
  fun g hg => (joinAux_closed _ _ (Nat.le_refl _) (compact_fresh segs h) hd g hg).1

/-- **each group is a whole connected component of the pieces**: no piece outside a group shares an end point
    with a piece inside it. Together with `join_preserves_edges` (inside a group consecutive pieces are glued at
    shared points) and `join_groups_closed`, the groups are exactly the closed chains of pieces that hang
    together through shared end points — for pieces cut from vertex-disjoint simple rings, the rings. -/
theorem join_groups_are_components (segs : List Seg) (h : FreshInput segs) (hd : DegR (compact segs))
    (l1 : List (List Seg)) (g : List Seg) (l2 : List (List Seg)) (hout : join segs = l1 ++ g :: l2) :
    ∀ p ∈ g.flatMap ends, p ∉ (l1 ++ l2).flatten.flatMap ends := by
  intro p hp
  have hg : DegR g := by
    refine (joinAux_closed _ _ (Nat.le_refl _) (compact_fresh segs h) hd g ?_).2
    show g ∈ join segs
    rw [hout]
    exact List.mem_append_right l1 List.mem_cons_self
  -- the ends of all groups are those of the input, here with those of `g` in front
  have hall : Paired (g.flatMap ends ++ (l1 ++ l2).flatten.flatMap ends) := by
    refine Paired.perm ?_ (Paired.perm (flatMap_ends_perm_of_norm (join_partitions_input segs h)).symm hd)
    rw [hout]
    simp only [List.flatten_append, List.flatten_cons, List.flatMap_append]
    exact List.perm_append_comm_assoc _ _ _
  -- `p` is there twice among the ends of `g` already
  have h1 := hall p
  have h2 := hg p
  have h3 : 0 < (g.flatMap ends).count p := List.count_pos_iff.mpr hp
  rw [List.count_append] at h1
  exact List.count_eq_zero.mp (by omega)

/-- the condition holds for pieces cut from vertex-disjoint simple rings — every cut point is where exactly one piece
    ends and exactly one begins (start points pairwise distinct, and as a multiset equal to the stop points) —
    and it survives reversing any pieces and listing them in any order -/
theorem cut_rings_condition (segs : List Seg) (starts stops : List P)
    (hs : segs.map startOf = starts.map some) (ht : segs.map stopOf = stops.map some)
    (hperm : starts.Perm stops) (hnd : starts.Nodup) (flip : Seg → Bool) (shuffled : List Seg)
    (hsh : (segs.map fun s => if flip s then s.rev else s).Perm shuffled) : DegR shuffled :=
  degR_perm _ _ hsh (degR_rev segs flip (degR_of_starts_stops segs starts stops hs ht hperm hnd))

/-! ## non-vacuity: a square cut into three pieces (one reversed) and a two-piece triangle, shuffled -/
def exSegs : List Seg := [
  Seg.mk' 0 0 [(4,4),(0,4),(0,0)],
  Seg.mk' 1 0 [(4,0),(0,0)],
  Seg.mk' 2 0 [(1,1),(2,1)],
  Seg.mk' 3 0 [(4,0),(4,4)],
  Seg.mk' 4 0 [(1,1),(1,2),(2,1)]]
example : (join exSegs).map lineOf = [[(1,1),(1,2),(2,1),(1,1)], [(4,0),(4,4),(0,4),(0,0),(4,0)]] := by decide
example : FreshInput exSegs := by intro s hs; simp [exSegs] at hs; rcases hs with rfl | rfl | rfl | rfl | rfl <;> rfl
example : DegR (compact exSegs) := by
  intro p
  by_cases h : p ∈ (compact exSegs).flatMap ends
  · exact .inr ((by decide : ∀ q ∈ (compact exSegs).flatMap ends, ((compact exSegs).flatMap ends).count q = 2) p h)
  · exact .inl (List.count_eq_zero.mpr h)

end OsmVerif.Props.C16
