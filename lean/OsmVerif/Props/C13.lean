import OsmVerif.Model.Change
/-!
# C13 — annotating a change yields the exact old/new diff for every element

Theorems about `Model.Change` (hand-written model of annotate/change.go, tied to the code by
the differential stream of `./check C13`).
-/
namespace OsmVerif.Props.C13
open OsmVerif.Model.Change

/-- the invariant of `findPrevious`' loop, at its end: `best` is returned when no entry below `cur` exceeds `max`,
    else the entry with the greatest version below `cur`, which exceeds `max` -/
theorem scan_end (cur : Int) (l : List Elem) : ∀ (best : Option Elem) (max : Int),
    (scan cur l best max = best ∧ ∀ e ∈ l, e.version < cur → e.version ≤ max) ∨
    ∃ o ∈ l, scan cur l best max = some o ∧ o.version < cur ∧ max < o.version ∧
      ∀ e ∈ l, e.version < cur → e.version ≤ o.version := by
  induction l with
  | nil => intro best max; exact Or.inl ⟨rfl, fun e he => by cases he⟩
  | cons x xs ih =>
    intro best max
    rw [scan]
    by_cases c : x.version < cur ∧ x.version > max
    · rw [if_pos c]
      refine Or.inr ?_
      rcases ih (some x) x.version with ⟨hr, hall⟩ | ⟨o, ho, hr, hc, hgt, hall⟩
      · exact ⟨x, List.mem_cons_self .., hr, c.1, c.2, List.forall_mem_cons.mpr ⟨fun _ => Int.le_refl _, hall⟩⟩
      · exact ⟨o, List.mem_cons_of_mem _ ho, hr, hc, Int.lt_trans c.2 hgt,
          List.forall_mem_cons.mpr ⟨fun _ => Int.le_of_lt hgt, hall⟩⟩
    · rw [if_neg c]
      have hx : x.version < cur → x.version ≤ max := fun hec => Int.not_lt.mp fun hgt => c ⟨hec, hgt⟩
      rcases ih best max with ⟨hr, hall⟩ | ⟨o, ho, hr, hc, hgt, hall⟩
      · exact Or.inl ⟨hr, List.forall_mem_cons.mpr ⟨hx, hall⟩⟩
      · exact Or.inr ⟨o, List.mem_cons_of_mem _ ho, hr, hc, hgt,
          List.forall_mem_cons.mpr ⟨fun h => Int.le_trans (hx h) (Int.le_of_lt hgt), hall⟩⟩

theorem scan_spec (cur : Int) (h : List Elem) :
    match findPrevious cur h with
    | none => ∀ e ∈ h, ¬ (0 ≤ e.version ∧ e.version < cur)
    | some o => o ∈ h ∧ o.version < cur ∧ 0 ≤ o.version ∧ ∀ e ∈ h, e.version < cur → e.version ≤ o.version := by
  rw [findPrevious]
  rcases scan_end cur h none (-1) with ⟨hr, hall⟩ | ⟨o, ho, hr, hc, hgt, hall⟩
  · rw [hr]
    intro e he ⟨h0, hc⟩
    have := hall e he hc
    omega
  · rw [hr]
    exact ⟨ho, hc, by omega, hall⟩

/-- **the old state is the history version with the greatest version number below the new one**,
    for every history: unsorted, with gaps, with later versions, with duplicates. -/
theorem previous_is_greatest_below (cur : Int) (h : List Elem) (o : Elem)
    (hf : findPrevious cur h = some o) :
    o ∈ h ∧ o.version < cur ∧ ∀ e ∈ h, e.version < cur → e.version ≤ o.version := by
  have := scan_spec cur h
  rw [hf] at this
  exact ⟨this.1, this.2.1, this.2.2.2⟩

theorem previous_exists_iff (cur : Int) (h : List Elem) :
    (findPrevious cur h).isSome ↔ ∃ e ∈ h, 0 ≤ e.version ∧ e.version < cur := by
  have := scan_spec cur h
  cases hs : findPrevious cur h with
  | none =>
    rw [hs] at this
    exact ⟨fun hs' => Bool.noConfusion hs', fun ⟨e, he, hh⟩ => absurd hh (this e he)⟩
  | some o =>
    rw [hs] at this
    exact ⟨fun _ => ⟨o, this.1, this.2.2.1, this.2.1⟩, fun _ => rfl⟩

/-- **a missing history is the documented typed error** (`NoVisibleChildError`), without `IgnoreMissingChildren` -/
theorem missing_history_error (ds : Datasource) (t : ActType) (e : Elem) (h : ds e.kind e.id = .notFound) :
    updateOne ds false t e = .error (.noVisibleChild e.kind e.id) := by
  simp [updateOne, h]

/-- **and so is a history without an earlier version** -/
theorem missing_previous_error (ds : Datasource) (t : ActType) (e : Elem) (hist : List Elem)
    (h : ds e.kind e.id = .found hist) (hp : findPrevious e.version hist = none) :
    updateOne ds false t e = .error (.noVisibleChild e.kind e.id) := by
  simp [updateOne, h, hp]

/-- any other error of the datasource is passed on, whatever the option -/
theorem other_error_propagates (ds : Datasource) (ig : Bool) (t : ActType) (e : Elem) (h : ds e.kind e.id = .otherErr) :
    updateOne ds ig t e = .error .other := by
  simp [updateOne, h]

/-- **with `IgnoreMissingChildren` both become a create action** -/
theorem ignore_missing_creates (ds : Datasource) (t : ActType) (e : Elem)
    (h : ds e.kind e.id = .notFound ∨ ∃ hist, ds e.kind e.id = .found hist ∧ findPrevious e.version hist = none) :
    updateOne ds true t e = .ok (createAction e) := by
  rcases h with h | ⟨hist, h, hp⟩
  · simp [updateOne, h]
  · simp [updateOne, h, hp]

/-- what `actions_order` compares: kind, id, version and payload of each action's new state -/
def newKeys (as : List Action) : List (Kind × Int × Int × Nat) :=
  as.map fun a => (a.new.kind, a.new.id, a.new.version, a.new.mark)

def elemKeys (l : List Elem) : List (Kind × Int × Int × Nat) :=
  l.map fun e => (e.kind, e.id, e.version, e.mark)

/-- the error one element of a modify/delete block raises, if any (it does not depend on the block) -/
def updateErr (ds : Datasource) (ig : Bool) (e : Elem) : Option Err :=
  match ds e.kind e.id with
  | .otherErr => some .other
  | .notFound => if ig then none else some (.noVisibleChild e.kind e.id)
  | .found h =>
    match findPrevious e.version h with
    | none => if ig then none else some (.noVisibleChild e.kind e.id)
    | some _ => none

/-- what `addUpdate` emits for an element of a modify/delete block that raises no error (the create only with
    `IgnoreMissingChildren`) -/
def actionOf (ds : Datasource) (t : ActType) (e : Elem) : Action :=
  match ds e.kind e.id with
  | .found h =>
    match findPrevious e.version h with
    | some old => { type := t, old := some old, new := { e with visible := decide (t ≠ .delete) } }
    | none => createAction e
  | _ => createAction e

/-- the result of a Go function returning `(value, error)` -/
def orElse {ε α} (err : Option ε) (a : α) : Except ε α :=
  match err with
  | some e => .error e
  | none => .ok a

theorem orElse_eq_error {ε α} (err : Option ε) (a : α) (e : ε) : orElse err a = .error e ↔ err = some e := by
  cases err <;> simp [orElse]

theorem orElse_eq_ok {ε α} (err : Option ε) (a b : α) : orElse err a = .ok b ↔ err = none ∧ b = a := by
  cases err <;> simp [orElse, eq_comm]

theorem updateOne_eq (ds : Datasource) (ig : Bool) (t : ActType) (e : Elem) :
    updateOne ds ig t e = orElse (updateErr ds ig e) (actionOf ds t e) := by
  unfold updateOne updateErr actionOf
  cases ds e.kind e.id with
  | otherErr => rfl
  | notFound => cases ig <;> rfl
  | found h =>
    dsimp only
    cases findPrevious e.version h with
    | none => cases ig <;> rfl
    | some o => rfl

theorem addUpdate_eq (ds : Datasource) (ig : Bool) (t : ActType) (l : List Elem) :
    addUpdate ds ig t l = orElse (l.findSome? (updateErr ds ig)) (l.map (actionOf ds t)) := by
  induction l with
  | nil => rfl
  | cons e rest ih =>
    rw [addUpdate, updateOne_eq, ih, List.findSome?_cons]
    cases updateErr ds ig e with
    | some err => rfl
    | none => cases List.findSome? (updateErr ds ig) rest <;> rfl

/-- **`annotate.Change` as a function**: the first error of the modify and delete blocks (modify before delete, and
    node, way, relation order within each) if there is one, otherwise a create action per created element followed
    by the action of every modified and every deleted element -/
theorem annotateChange_eq (ds : Datasource) (ig : Bool) (c : Change) :
    annotateChange ds ig c = orElse ((c.modify.all ++ c.delete.all).findSome? (updateErr ds ig))
      (c.create.all.map createAction ++ c.modify.all.map (actionOf ds .modify) ++ c.delete.all.map (actionOf ds .delete)) := by
  rw [annotateChange, addUpdate_eq, addUpdate_eq, List.findSome?_append]
  cases List.findSome? (updateErr ds ig) c.modify.all with
  | some err => rfl
  | none => cases List.findSome? (updateErr ds ig) c.delete.all <;> rfl

theorem annotateChange_ok (ds : Datasource) (ig : Bool) (c : Change) (as : List Action)
    (h : annotateChange ds ig c = .ok as) :
    (∀ e ∈ c.modify.all ++ c.delete.all, updateErr ds ig e = none) ∧
    as = c.create.all.map createAction ++ c.modify.all.map (actionOf ds .modify) ++ c.delete.all.map (actionOf ds .delete) := by
  rw [annotateChange_eq, orElse_eq_ok] at h
  exact ⟨List.findSome?_eq_none_iff.mp h.1, h.2⟩

theorem actionOf_key (ds : Datasource) (t : ActType) (e : Elem) :
    ((actionOf ds t e).new.kind, (actionOf ds t e).new.id, (actionOf ds t e).new.version, (actionOf ds t e).new.mark) =
      (e.kind, e.id, e.version, e.mark) := by
  unfold actionOf
  split
  · split <;> rfl
  · rfl

theorem newKeys_append (a b : List Action) : newKeys (a ++ b) = newKeys a ++ newKeys b := List.map_append

theorem newKeys_createAction (l : List Elem) : newKeys (l.map createAction) = elemKeys l := by
  simp [newKeys, elemKeys, createAction, Function.comp_def]

theorem newKeys_actionOf (ds : Datasource) (t : ActType) (l : List Elem) : newKeys (l.map (actionOf ds t)) = elemKeys l := by
  simp [newKeys, elemKeys, actionOf_key]

theorem ig_of_no_err {ig : Bool} {err : Err} (h : (if ig then none else some err) = none) : ig = true := by
  cases ig with
  | false => cases h
  | true => rfl

/-- what `block_actions` says of one action, in its words; `a` stands for `actionOf ds t e`, which the statement
    would otherwise repeat nine times -/
theorem actionOf_spec (ds : Datasource) (ig : Bool) (t : ActType) (e : Elem) (h : updateErr ds ig e = none)
    (a : Action) (ha : a = actionOf ds t e) :
    (a.type = t ∧ a.new.visible = decide (t ≠ .delete) ∧
      ∃ hist o, ds a.new.kind a.new.id = .found hist ∧ a.old = some o ∧ o ∈ hist ∧
        o.version < a.new.version ∧ ∀ x ∈ hist, x.version < a.new.version → x.version ≤ o.version)
    ∨ (ig = true ∧ a.type = .create ∧ a.old = none ∧ a.new.visible = true) := by
  subst ha
  unfold updateErr at h
  unfold actionOf
  cases hd : ds e.kind e.id with
  | otherErr =>
    rw [hd] at h
    cases h
  | notFound =>
    rw [hd] at h
    exact Or.inr ⟨ig_of_no_err h, rfl, rfl, rfl⟩
  | found hist =>
    rw [hd] at h
    dsimp only at h ⊢
    cases hp : findPrevious e.version hist with
    | none =>
      rw [hp] at h
      exact Or.inr ⟨ig_of_no_err h, rfl, rfl, rfl⟩
    | some o => exact Or.inl ⟨rfl, rfl, hist, o, hd, rfl, previous_is_greatest_below _ _ _ hp⟩

/-- **exactly one action per changed element, in create, modify, delete order and
    node, way, relation order within each** -/
theorem actions_order (ds : Datasource) (ig : Bool) (c : Change) (as : List Action)
    (h : annotateChange ds ig c = .ok as) :
    newKeys as = elemKeys (c.create.nodes ++ c.create.ways ++ c.create.relations ++
      (c.modify.nodes ++ c.modify.ways ++ c.modify.relations) ++
      (c.delete.nodes ++ c.delete.ways ++ c.delete.relations)) := by
  obtain ⟨_, rfl⟩ := annotateChange_ok ds ig c as h
  rw [newKeys_append, newKeys_append, newKeys_createAction, newKeys_actionOf, newKeys_actionOf]
  simp [elemKeys, Group.all]

theorem actions_length (ds : Datasource) (ig : Bool) (c : Change) (as : List Action)
    (h : annotateChange ds ig c = .ok as) :
    as.length = c.create.all.length + c.modify.all.length + c.delete.all.length := by
  obtain ⟨_, rfl⟩ := annotateChange_ok ds ig c as h
  simp [Nat.add_assoc]

/-- created elements become create actions marked visible -/
theorem create_visible (ds : Datasource) (ig : Bool) (c : Change) (as : List Action)
    (h : annotateChange ds ig c = .ok as) :
    ∀ i, (hi : i < c.create.all.length) → ∃ a, as[i]? = some a ∧ a.type = .create ∧ a.old = none ∧ a.new.visible = true := by
  obtain ⟨_, rfl⟩ := annotateChange_ok ds ig c as h
  intro i hi
  refine ⟨createAction c.create.all[i], ?_, rfl, rfl, rfl⟩
  rw [List.append_assoc, List.getElem?_append_left (by simpa using hi)]
  simp [hi]

/-- for either value of the ignore option: an action of the modify (delete) block is a modify (delete)
    paired with the greatest history version below its own — or, only with the option set, a visible create for an
    element whose history or earlier version is missing -/
theorem block_actions (ds : Datasource) (ig : Bool) (c : Change) (as : List Action)
    (h : annotateChange ds ig c = .ok as) :
    ∃ m d, as = c.create.all.map createAction ++ m ++ d ∧
      (∀ a ∈ m, (a.type = .modify ∧ a.new.visible = true ∧ ∃ hist o, ds a.new.kind a.new.id = .found hist ∧
          a.old = some o ∧ o ∈ hist ∧ o.version < a.new.version ∧ ∀ e ∈ hist, e.version < a.new.version → e.version ≤ o.version)
        ∨ (ig = true ∧ a.type = .create ∧ a.old = none ∧ a.new.visible = true)) ∧
      (∀ a ∈ d, (a.type = .delete ∧ a.new.visible = false ∧ ∃ hist o, ds a.new.kind a.new.id = .found hist ∧
          a.old = some o ∧ o ∈ hist ∧ o.version < a.new.version ∧ ∀ e ∈ hist, e.version < a.new.version → e.version ≤ o.version)
        ∨ (ig = true ∧ a.type = .create ∧ a.old = none ∧ a.new.visible = true)) := by
  obtain ⟨noErr, rfl⟩ := annotateChange_ok ds ig c as h
  refine ⟨_, _, rfl, ?_, ?_⟩
  · intro a ha
    obtain ⟨e, he, rfl⟩ := List.mem_map.mp ha
    exact actionOf_spec ds ig .modify e (noErr e (List.mem_append_left _ he)) _ rfl
  · intro a ha
    obtain ⟨e, he, rfl⟩ := List.mem_map.mp ha
    exact actionOf_spec ds ig .delete e (noErr e (List.mem_append_right _ he)) _ rfl

/-- **every modify/delete action pairs its element with the greatest history version below its own;
    new state visible for modify, not visible for delete** (without the ignore option no action
    of the modify/delete blocks is a create) -/
theorem visible_flags_and_old (ds : Datasource) (c : Change) (as : List Action)
    (h : annotateChange ds false c = .ok as) :
    ∃ m d, as = c.create.all.map createAction ++ m ++ d ∧
      (∀ a ∈ m, a.type = .modify ∧ a.new.visible = true ∧ ∃ hist o, ds a.new.kind a.new.id = .found hist ∧
          a.old = some o ∧ o ∈ hist ∧ o.version < a.new.version ∧ ∀ e ∈ hist, e.version < a.new.version → e.version ≤ o.version) ∧
      (∀ a ∈ d, a.type = .delete ∧ a.new.visible = false ∧ ∃ hist o, ds a.new.kind a.new.id = .found hist ∧
          a.old = some o ∧ o ∈ hist ∧ o.version < a.new.version ∧ ∀ e ∈ hist, e.version < a.new.version → e.version ≤ o.version) := by
  -- `block_actions` without the option: the create alternative needs `ig = true`
  obtain ⟨m, d, has, hm, hd⟩ := block_actions ds false c as h
  refine ⟨m, d, has, fun a ha => ?_, fun a ha => ?_⟩
  · exact (hm a ha).resolve_right (fun hc => Bool.noConfusion hc.1)
  · exact (hd a ha).resolve_right (fun hc => Bool.noConfusion hc.1)

/-- **the change as a whole**: annotation succeeds exactly when no element of the modify and delete blocks raises an
    error, and otherwise reports the error of the first such element — modify block before delete block, and
    node, way, relation order within each (`NoVisibleChildError` for a missing history or missing earlier version
    without the ignore option, the datasource's own error otherwise) -/
theorem change_error (ds : Datasource) (ig : Bool) (c : Change) :
    (∀ err, annotateChange ds ig c = .error err ↔
      ((c.modify.all ++ c.delete.all).filterMap (updateErr ds ig)).head? = some err) ∧
    ((∃ as, annotateChange ds ig c = .ok as) ↔ (c.modify.all ++ c.delete.all).filterMap (updateErr ds ig) = []) := by
  rw [annotateChange_eq, ← List.head?_eq_none_iff, List.head?_filterMap]
  refine ⟨fun err => orElse_eq_error _ _ err, ?_, ?_⟩
  · intro ⟨as, h⟩
    exact ((orElse_eq_ok _ _ _).mp h).1
  · intro h
    exact ⟨_, (orElse_eq_ok _ _ _).mpr ⟨h, rfl⟩⟩

def exDs : Datasource := fun k id =>
  if k = .node ∧ id = 5 then .found [⟨.node, 5, 3, 0, true⟩, ⟨.node, 5, 1, 1, true⟩, ⟨.node, 5, 7, 2, true⟩, ⟨.node, 5, 2, 3, true⟩]
  else .notFound
example : findPrevious 4 [⟨.node, 5, 3, 0, true⟩, ⟨.node, 5, 1, 1, true⟩, ⟨.node, 5, 7, 2, true⟩] = some ⟨.node, 5, 3, 0, true⟩ := by decide
example : (annotateChange exDs false ⟨⟨[], [], []⟩, ⟨[⟨.node, 5, 4, 9, false⟩], [], []⟩, ⟨[], [], []⟩⟩).toOption.isSome = true := by decide

/-- with the option: the element without history becomes a visible create; without it: the typed error of that element -/
example : (match annotateChange exDs true ⟨⟨[], [], []⟩, ⟨[⟨.node, 5, 4, 9, false⟩], [⟨.way, 8, 2, 1, false⟩], []⟩, ⟨[], [], []⟩⟩ with
    | .ok as => as.map (fun a => (a.type, a.new.id, a.new.visible, a.old.map (·.version)))
    | .error _ => []) = [(.modify, 5, true, some 3), (.create, 8, true, none)] := by decide
example : (match annotateChange exDs false ⟨⟨[], [], []⟩, ⟨[⟨.node, 5, 4, 9, false⟩], [⟨.way, 8, 2, 1, false⟩], []⟩, ⟨[⟨.node, 6, 2, 0, false⟩], [], []⟩⟩ with
    | .error (.noVisibleChild k id) => some (k, id)
    | _ => none) = some (.way, 8) := by decide

end OsmVerif.Props.C13
