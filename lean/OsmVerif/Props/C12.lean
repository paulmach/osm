import OsmVerif.Lemmas.Sort
import OsmVerif.Lemmas.List
/-!
# C12 — annotation is deterministic; updates are ordered by index, time, version

Theorems about `Model.Annotate.compute` (hand-written model of core.Compute, tied to the code by
the differential stream and by repeating the real computation on deep copies). The order in which
Go iterates the child map is the parameter `order`; the comparison keys of `SortByIndex` are
regenerated from update.go (`Gen.Update.sortIndexKeys`).
-/
namespace OsmVerif.Props.C12
open OsmVerif.Model.Annotate OsmVerif.Gen.Update

/-- the comparison of `updatesSortIndex.Less`, as extracted: index, then timestamp, then version -/
theorem index_keys : sortIndexKeys = ["index", "timestamp", "version"] := by decide

/-- the sort is the stable one (`sortBy` in the model): updates that agree on all three keys — a history holding a
    version number twice — keep the order in which the per-child step produced them -/
theorem sort_is_stable : sortByIndexBody = ["sort.Stable(updatesSortIndex(us))"] := by decide

abbrev less := keyLess sortIndexKeys

theorem less_iff_lex (a b : Update) :
    less a b = true ↔ (a.index < b.index ∨ (a.index = b.index ∧ (a.ts < b.ts ∨ (a.ts = b.ts ∧ a.version < b.version)))) := by
  rw [less, keyLess_iff_lex, index_keys]
  -- the order on the key vectors, unrolled entry by entry, is the right side but for the index, which the vector
  -- holds as an `Int`
  simp only [List.map_cons, List.map_nil, List.cons_lt_cons_iff, List.not_lt_nil, keyOf, and_false, or_false,
    Int.ofNat_lt, Int.ofNat_inj]

/-- the hypothesis is what `SortedBy less` says of an earlier `a` and a later `b` -/
theorem lex_le_of_not_less {a b : Update} (h : less b a = false) :
    a.index < b.index ∨ (a.index = b.index ∧ (a.ts < b.ts ∨ (a.ts = b.ts ∧ a.version ≤ b.version))) := by
  have := mt (less_iff_lex b a).mpr (Bool.eq_false_iff.mp h)
  omega

/-- **ties only between equal keys**: two updates neither of which sorts before the other agree on
    index, timestamp and version (so versions of one child that share a timestamp are never tied) -/
theorem incomparable_keys_equal (a b : Update) (h1 : less a b = false) (h2 : less b a = false) :
    a.index = b.index ∧ a.ts = b.ts ∧ a.version = b.version := by
  have := lex_le_of_not_less h1
  have := lex_le_of_not_less h2
  omega

theorem sortByIndex_sorted (l : List Update) : SortedBy less (sortByIndex l) :=
  sortBy_sorted _ (keyLess_asymm _) (keyLess_trans _) l

theorem sortByIndex_perm (l : List Update) : (sortByIndex l).Perm l := sortBy_perm _ l

/-- what `collect` appends for `fid` under `AllOk` -/
def okEffects (o : Options) (parents : List ParentV) (hist : Nat → Option (List Child)) (fid : Nat) : List Effect :=
  match childEffects o parents hist fid with
  | .ok es => es
  | .error _ => []

/-- the loop of `compute` over the child ids, from any accumulator: `compute` is `resultOf parents` of
    `collect … []` (`compute_eq_ok`) -/
def collect (o : Options) (parents : List ParentV) (hist : Nat → Option (List Child)) (acc : List Effect) (order : List Nat) :
    Except Err (List Effect) :=
  order.foldlM (init := acc) fun acc fid => do
    let es ← childEffects o parents hist fid
    pure (acc ++ es)

theorem collect_nil (o : Options) (parents : List ParentV) (hist : Nat → Option (List Child)) (acc : List Effect) :
    collect o parents hist acc [] = .ok acc := rfl

theorem collect_cons (o : Options) (parents : List ParentV) (hist : Nat → Option (List Child)) (acc : List Effect)
    (f : Nat) (rest : List Nat) : collect o parents hist acc (f :: rest) =
      (childEffects o parents hist f).bind fun es => collect o parents hist (acc ++ es) rest := by
  simp only [collect, List.foldlM_cons, bind_assoc, pure_bind]
  rfl

/-- when `collect`, hence `compute`, succeeds -/
def AllOk (o : Options) (parents : List ParentV) (hist : Nat → Option (List Child)) (order : List Nat) : Prop :=
  ∀ fid ∈ order, ∃ es, childEffects o parents hist fid = .ok es

theorem AllOk.perm {o : Options} {parents : List ParentV} {hist : Nat → Option (List Child)} {order1 order2 : List Nat}
    (hp : order1.Perm order2) : AllOk o parents hist order1 ↔ AllOk o parents hist order2 :=
  ⟨fun h g hg => h g (hp.mem_iff.mpr hg), fun h g hg => h g (hp.mem_iff.mp hg)⟩

theorem collect_eq_ok (o : Options) (parents : List ParentV) (hist : Nat → Option (List Child)) (order : List Nat)
    (acc r : List Effect) : collect o parents hist acc order = .ok r ↔
      AllOk o parents hist order ∧ r = acc ++ order.flatMap (okEffects o parents hist) := by
  induction order generalizing acc r with
  | nil => simp [collect_nil, AllOk, eq_comm]
  | cons f rest ih =>
    rw [collect_cons, AllOk, List.forall_mem_cons, List.flatMap_cons, okEffects]
    cases childEffects o parents hist f with
    | error e => simp [Except.bind]
    | ok es => simp only [Except.bind, ih, AllOk, Except.ok.injEq, exists_eq', true_and, List.append_assoc]

theorem collect_success_perm (o : Options) (parents : List ParentV) (hist : Nat → Option (List Child))
    (order1 order2 : List Nat) (hp : order1.Perm order2) :
    (∃ r, collect o parents hist [] order1 = .ok r) ↔ (∃ r, collect o parents hist [] order2 = .ok r) := by
  simp only [collect_eq_ok, exists_and_left, exists_eq, and_true]
  exact AllOk.perm hp

/-- the value a parent's child slot `j` ends up with -/
def childAt (sets : List (Nat × Child)) (j : Nat) : Option Child :=
  ((sets.filter (fun s => s.1 = j)).getLast?).map (·.2)

theorem filter_key_perm {l1 l2 : List (Nat × Child)} (hp : l1.Perm l2) (hn : (l1.map (·.1)).Nodup) (j : Nat) :
    l1.filter (fun s => s.1 = j) = l2.filter (fun s => s.1 = j) := by
  rw [List.filter_key_eq_find? hn, List.filter_key_eq_find? ((hp.map _).nodup_iff.mp hn), List.find?_key_perm hp hn]

/-- no two different updates of the list agree on all three sort keys, so none are tied and the sorted order of
    the list is unique -/
def KeysInjective (l : List Update) : Prop :=
  ∀ a ∈ l, ∀ b ∈ l, a.index = b.index → a.ts = b.ts → a.version = b.version → a = b

theorem sortByIndex_perm_eq {l1 l2 : List Update} (hp : l1.Perm l2) (hk : KeysInjective (sortByIndex l1)) :
    sortByIndex l2 = sortByIndex l1 := by
  have hps : (sortByIndex l1).Perm (sortByIndex l2) :=
    (sortByIndex_perm l1).trans (hp.trans (sortByIndex_perm l2).symm)
  refine (List.Perm.eq_of_pairwise (le := fun a b => less b a = false) ?_ (sortByIndex_sorted _)
    (sortByIndex_sorted _) hps).symm
  intro a b ha hb hab hba
  obtain ⟨k1, k2, k3⟩ := incomparable_keys_equal a b hba hab
  exact hk a ha b (hps.mem_iff.mpr hb) k1 k2 k3

/-- `Compute`'s per-parent projection and sort of the collected effects -/
def resultOf (parents : List ParentV) (effects : List Effect) : Result :=
  { sets := (List.range parents.length).map (fun i => (effects.filter (·.parent = i)).flatMap (·.sets)),
    updates := (List.range parents.length).map (fun i => sortByIndex ((effects.filter (·.parent = i)).flatMap (·.updates))) }

theorem compute_eq_ok (o : Options) (parents : List ParentV) (hist : Nat → Option (List Child)) (order : List Nat)
    (r : Result) : compute o parents hist order = .ok r ↔
      AllOk o parents hist order ∧ r = resultOf parents (order.flatMap (okEffects o parents hist)) := by
  -- `compute` is `do let es ← collect …; pure (resultOf …)`: a map, written as a bind
  have hc : compute o parents hist order = resultOf parents <$> collect o parents hist [] order :=
    (map_eq_pure_bind ..).symm
  rw [hc, Except.map_eq_ok_iff]
  simp only [collect_eq_ok, List.nil_append]
  constructor
  · rintro ⟨_, ⟨hall, rfl⟩, rfl⟩
    exact ⟨hall, rfl⟩
  · rintro ⟨hall, rfl⟩
    exact ⟨_, ⟨hall, rfl⟩, rfl⟩

theorem resultOf_updates (parents : List ParentV) (effects : List Effect) (i : Nat) :
    (resultOf parents effects).updates.getD i [] =
      if i < parents.length then sortByIndex ((effects.filter (·.parent = i)).flatMap (·.updates)) else [] :=
  List.getD_map_range ..

theorem resultOf_sets (parents : List ParentV) (effects : List Effect) (i : Nat) :
    (resultOf parents effects).sets.getD i [] =
      if i < parents.length then (effects.filter (·.parent = i)).flatMap (·.sets) else [] :=
  List.getD_map_range ..

/-- **annotation is a function of its input, independent of hash-map iteration order**: for two
    iteration orders of the same child set either both fail or both succeed; then every parent's update
    list is identical (given that no two distinct updates of one parent share index, time and version —
    `keys_injective` in `C12b` shows where that comes from) and every child slot holds the same child (given that
    no slot of the parent is set twice). -/
theorem compute_order_independent (o : Options) (parents : List ParentV) (hist : Nat → Option (List Child))
    (order1 order2 : List Nat) (hp : order1.Perm order2) :
    ((∃ r, compute o parents hist order1 = .ok r) ↔ (∃ r, compute o parents hist order2 = .ok r)) ∧
    ∀ r1 r2, compute o parents hist order1 = .ok r1 → compute o parents hist order2 = .ok r2 →
      (∀ i, KeysInjective (r1.updates.getD i []) → r2.updates.getD i [] = r1.updates.getD i []) ∧
      (∀ i j, ((r1.sets.getD i []).map (·.1)).Nodup →
        childAt (r2.sets.getD i []) j = childAt (r1.sets.getD i []) j) := by
  constructor
  · simp only [compute_eq_ok, exists_and_left, exists_eq, and_true]
    exact AllOk.perm hp
  · intro r1 r2 h1 h2
    obtain ⟨_, rfl⟩ := (compute_eq_ok ..).mp h1
    obtain ⟨_, rfl⟩ := (compute_eq_ok ..).mp h2
    -- the effect lists are permutations of each other, and so is what each parent gets of them
    have hpe := hp.flatMap_right (okEffects o parents hist)
    constructor
    · intro i hk
      simp only [resultOf_updates] at hk ⊢
      split
      · next hi =>
        rw [if_pos hi] at hk
        exact sortByIndex_perm_eq ((hpe.filter (·.parent = i)).flatMap_right (·.updates)) hk
      · rfl
    · intro i j hn
      simp only [resultOf_sets] at hn ⊢
      split
      · next hi =>
        rw [if_pos hi] at hn
        unfold childAt
        rw [filter_key_perm ((hpe.filter (·.parent = i)).flatMap_right (·.sets)) hn j]
      · rfl

/-- **each update list is ordered by child index and, within an index, by time and then by child version** -/
theorem updates_sorted_index_time_version (o : Options) (parents : List ParentV) (hist : Nat → Option (List Child))
    (order : List Nat) (r : Result) (h : compute o parents hist order = .ok r) :
    ∀ l ∈ r.updates, l.Pairwise (fun a b =>
      a.index < b.index ∨ (a.index = b.index ∧ (a.ts < b.ts ∨ (a.ts = b.ts ∧ a.version ≤ b.version)))) := by
  intro l hl
  obtain ⟨_, rfl⟩ := (compute_eq_ok ..).mp h
  simp only [resultOf, List.mem_map, List.mem_range] at hl
  obtain ⟨i, _, rfl⟩ := hl
  exact (sortByIndex_sorted _).imp lex_le_of_not_less

/-- regression witness for the repaired defect: with the keys the source had before (`index`, `timestamp`
    only) two versions of one child that share a second are incomparable although different, so the
    sorted order was not unique -/
theorem updates_tie_counterexample :
    let a : Update := ⟨0, 2, 100, 7, 1, 1, false⟩
    let b : Update := ⟨0, 3, 100, 7, 2, 2, false⟩
    keyLess ["index", "timestamp"] a b = false ∧ keyLess ["index", "timestamp"] b a = false ∧ a ≠ b ∧
    less a b = true := by decide

end OsmVerif.Props.C12
