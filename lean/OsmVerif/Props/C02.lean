import OsmVerif.Model.Pipeline
import OsmVerif.Gen.Pbf
import OsmVerif.Lemmas.PbfScan
/-!
# C02 — parallel decoding preserves file order under every schedule

For every number of decoders, every number of blocks and EVERY schedule of the reader, the decoders and the
serializer, what the consumer is given is `0, 1, 2, …` — the blocks in file order, none lost, duplicated or
swapped — and when nothing more can happen every block has been given. The shape of the pipeline the model
describes (round-robin dispatch and collection with the same modulus, one private decoder and one fresh
object slice per block, results forwarded unconditionally) is checked against the statements regenerated
from `decoder.Start`.
-/
namespace OsmVerif.Props.C02
open OsmVerif.Model.Pipeline OsmVerif.Gen.Pbf

/-- the blocks `m ≤ b < next` that belong to decoder `w` -/
def owed (n m next w : Nat) : List Nat := (List.range' m (next - m)).filter (fun b => b % n = w)

structure Inv (n : Nat) (s : PState) : Prop where
  le : s.emitted.length ≤ s.next
  emitted : s.emitted = List.range s.emitted.length
  sr : s.sr = s.emitted.length % n
  rr : s.rr = s.next % n
  held : ∀ w, w < n → held s w = owed n s.emitted.length s.next w

theorem owed_snoc (n m next w : Nat) (h : m ≤ next) :
    owed n m (next + 1) w = owed n m next w ++ if w = next % n then [next] else [] := by
  unfold owed
  rw [Nat.succ_sub h, List.range'_concat, List.filter_append, Nat.one_mul, Nat.add_sub_of_le h]
  by_cases c : w = next % n <;> simp [c, eq_comm]

theorem owed_cons (n m next w : Nat) (h : m < next) :
    owed n m next w = (if w = m % n then [m] else []) ++ owed n (m + 1) next w := by
  unfold owed
  have e : next - m = (next - (m + 1)) + 1 := by omega
  rw [e, List.range'_succ]
  by_cases c : w = m % n <;> simp [c, eq_comm]

theorem owed_of_le (n m next w : Nat) (h : next ≤ m) : owed n m next w = [] := by
  simp [owed, Nat.sub_eq_zero_of_le h]

/-- A step as the invariant sees it, each decoder a queue (`held`: its output queue, the block it is decoding, its
    input queue): the reader appends the block it has read to queue `rr`, the serializer takes the head of queue
    `sr`, a decoder's own steps leave its queue as it is. -/
inductive QueueStep (n B : Nat) (s s' : PState) : Prop where
  | enq (hB : s.next < B) (next : s'.next = s.next + 1) (rr : s'.rr = (s.rr + 1) % n) (sr : s'.sr = s.sr)
      (emitted : s'.emitted = s.emitted) (held : ∀ v, held s' v = held s v ++ if v = s.rr then [s.next] else [])
  | move (next : s'.next = s.next) (rr : s'.rr = s.rr) (sr : s'.sr = s.sr) (emitted : s'.emitted = s.emitted)
      (held : ∀ v, held s' v = held s v)
  | deq (b : Nat) (next : s'.next = s.next) (rr : s'.rr = s.rr) (sr : s'.sr = (s.sr + 1) % n)
      (emitted : s'.emitted = s.emitted ++ [b]) (held : ∀ v, held s v = (if v = s.sr then [b] else []) ++ held s' v)

theorem queueStep_of_step {n B : Nat} {s s' : PState} {a : Action} (h : step n B s a = some s') :
    QueueStep n B s s' := by
  revert h
  fun_cases step n B s a
  -- closes the branches in which `step` returns `none`; left are read, take, finish and emit, with their guards
  all_goals intro h; cases h
  next hB =>
    refine .enq hB rfl rfl rfl rfl fun v => ?_
    by_cases c : v = s.rr <;> simp [held, upd, c]
  next w _ b rest hin hb =>   -- in this order: `hin : s.inputs w = b :: rest`, `hb : s.busy w = none`
    refine .move rfl rfl rfl rfl fun v => ?_
    by_cases c : v = w <;> simp [held, upd, c, hin, hb]
  next w _ b hb =>
    refine .move rfl rfl rfl rfl fun v => ?_
    by_cases c : v = w <;> simp [held, upd, c, hb]
  next b rest hout =>
    refine .deq b rfl rfl rfl rfl fun v => ?_
    by_cases c : v = s.sr <;> simp [held, upd, c, hout]

theorem inv_init (n : Nat) : Inv n init :=
  ⟨Nat.le_refl 0, rfl, (Nat.zero_mod n).symm, (Nat.zero_mod n).symm, fun w _ => (owed_of_le n 0 0 w (Nat.le_refl 0)).symm⟩

theorem inv_step (n B : Nat) (hn : 0 < n) (s s' : PState) (a : Action) (hi : Inv n s) (hs : step n B s a = some s') :
    Inv n s' := by
  obtain ⟨hle, hem, hsr, hrr, hheld⟩ := hi
  cases queueStep_of_step hs with
  | enq _ nx rr sr em hd =>
    refine ⟨?_, ?_, ?_, ?_, fun w hw => ?_⟩
    · rw [em, nx]; omega
    · rw [em]; exact hem
    · rw [sr, em]; exact hsr
    · rw [rr, nx, hrr]; exact Nat.mod_add_mod _ _ _
    · rw [hd, nx, em, hheld w hw, hrr, owed_snoc n _ _ w hle]
  | move nx rr sr em hd =>
    refine ⟨?_, ?_, ?_, ?_, fun w hw => ?_⟩
    · rw [em, nx]; exact hle
    · rw [em]; exact hem
    · rw [sr, em]; exact hsr
    · rw [rr, nx]; exact hrr
    · rw [hd, nx, em, hheld w hw]
  | deq b nx rr sr em hd =>
    have hsrlt : s.sr < n := hsr ▸ Nat.mod_lt _ hn
    -- the queue the serializer takes from is not empty, so a block is owed
    have hlt : s.emitted.length < s.next := Nat.lt_of_not_le fun hge => by
      have := hd s.sr
      rw [hheld s.sr hsrlt, owed_of_le n _ _ _ hge, if_pos rfl] at this
      cases this
    -- take the oldest owed block from both sides of the invariant
    have hcons : ∀ v, v < n → (if v = s.sr then [b] else []) ++ held s' v =
        (if v = s.sr then [s.emitted.length] else []) ++ owed n (s.emitted.length + 1) s.next v :=
      fun v hv => by rw [← hd, hheld v hv, owed_cons n _ _ v hlt, hsr]
    obtain ⟨hb, htail⟩ : b = s.emitted.length ∧ held s' s.sr = owed n (s.emitted.length + 1) s.next s.sr := by
      simpa using hcons s.sr hsrlt
    have hlen : s'.emitted.length = s.emitted.length + 1 := by rw [em, List.length_append]; rfl
    refine ⟨?_, ?_, ?_, ?_, fun v hv => ?_⟩
    · rw [hlen, nx]; exact hlt
    · rw [hlen, List.range_succ, ← hem, em, hb]
    · rw [sr, hlen, hsr]; exact Nat.mod_add_mod _ _ _
    · rw [rr, nx]; exact hrr
    · rw [hlen, nx]
      by_cases c : v = s.sr
      · rw [c]; exact htail
      · simpa [c] using hcons v hv

theorem step_next_le (n B : Nat) (s s' : PState) (a : Action) (h : step n B s a = some s') (hb : s.next ≤ B) :
    s'.next ≤ B := by
  rcases queueStep_of_step h with ⟨hB, nx, -⟩ | ⟨nx, -⟩ | ⟨b, nx, -⟩ <;> omega

theorem inv_run (n B : Nat) (hn : 0 < n) (s : PState) (hi : Inv n s) (hb : s.next ≤ B) (sched : List Action) :
    Inv n (run n B s sched) ∧ (run n B s sched).next ≤ B := by
  induction sched generalizing s with
  | nil => exact ⟨hi, hb⟩
  | cons a as ih =>
    simp only [run]
    cases h : step n B s a with
    | none => exact ih s hi hb
    | some s' => exact ih s' (inv_step n B hn s s' a hi h) (step_next_le n B s s' a h hb)

theorem inv_reachable (n B : Nat) (hn : 0 < n) (sched : List Action) :
    Inv n (run n B init sched) ∧ (run n B init sched).next ≤ B :=
  inv_run n B hn init (inv_init n) (Nat.zero_le B) sched

/-- **every schedule**: whatever interleaving of reader, decoders and serializer, the consumer has been given
    exactly the blocks `0 … m-1` in file order -/
theorem order_under_every_schedule (n B : Nat) (hn : 0 < n) (sched : List Action) :
    ∃ m, (run n B init sched).emitted = List.range m ∧ m ≤ B := by
  obtain ⟨hi, hb⟩ := inv_reachable n B hn sched
  exact ⟨_, hi.emitted, Nat.le_trans hi.le hb⟩

/-! ## bounded channels

Go's channels are bounded (`numChanels = 10 / n` slots; for more than ten decoders none: a send then completes only
when its receiver takes). A bounded queue only disables steps, so every bounded schedule is one of the schedules
above and the order theorem applies. Progress is NOT inherited — fewer enabled steps could mean new stuck states —
and is proved for the bounded system; the unbounded one inherits it, since a step enabled under a bound is enabled
without. An unbuffered channel is taken as one slot, the item in the sender's hand; the model then still lets that
sender go on (a decoder take its next block, the reader read for the next queue), which a Go sender blocked in its
send does not: for more than ten decoders the progress theorem speaks of a system with more steps than Go's. -/

/-- one step with at most `cap` items per input and output queue -/
def stepB (n B cap : Nat) (s : PState) (a : Action) : Option PState :=
  match a with
  | .read => if (s.inputs s.rr).length < cap then step n B s .read else none
  | .finish w => if (s.outputs w).length < cap then step n B s (.finish w) else none
  | a => step n B s a

theorem stepB_is_step (n B cap : Nat) (s s' : PState) (a : Action) (h : stepB n B cap s a = some s') :
    step n B s a = some s' := by
  cases a with
  | read => exact (Option.ite_none_right_eq_some.mp h).2
  | finish w => exact (Option.ite_none_right_eq_some.mp h).2
  | take w => exact h
  | emit => exact h

def runB (n B cap : Nat) (s : PState) : List Action → PState
  | [] => s
  | a :: as => runB n B cap ((stepB n B cap s a).getD s) as

/-- a bounded schedule is an unbounded one: leave out the steps the bound disables -/
theorem runB_eq_run (n B cap : Nat) (s : PState) (sched : List Action) :
    ∃ sched', runB n B cap s sched = run n B s sched' := by
  induction sched generalizing s with
  | nil => exact ⟨[], rfl⟩
  | cons a as ih =>
    cases h : stepB n B cap s a with
    | none => simpa [runB, h] using ih s
    | some s' =>
      obtain ⟨sched', hs⟩ := ih s'
      exact ⟨a :: sched', by simp [runB, run, h, stepB_is_step n B cap s s' a h, hs]⟩

/-- **no deadlock, in any state the invariant describes**: with at least one slot per queue, while a block is still
    missing some step is enabled -/
theorem enabled_of_missing (n B cap : Nat) (hn : 0 < n) (hcap : 0 < cap) (s : PState) (hi : Inv n s)
    (hm : s.emitted.length < B) : ∃ a, (stepB n B cap s a).isSome = true := by
  obtain ⟨hle, hem, hsr, hrr, hheld⟩ := hi
  rcases Nat.lt_or_ge s.emitted.length s.next with hlt | hge
  · -- the block the serializer waits for has been read: decoder `sr` holds it, at the front, and can pass it on
    -- (if it is not yet in the output queue that queue is empty, everything older having been forwarded)
    have hsrlt : s.sr < n := hsr ▸ Nat.mod_lt _ hn
    have hh := hheld s.sr hsrlt
    rw [owed_cons n _ _ _ hlt, if_pos hsr] at hh
    cases ho : s.outputs s.sr with
    | cons b rest => exact ⟨.emit, by simp [stepB, step, ho]⟩
    | nil =>
      cases hbz : s.busy s.sr with
      | some b => exact ⟨.finish s.sr, by simp [stepB, step, ho, hcap, hsrlt, hbz]⟩
      | none =>
        cases hin : s.inputs s.sr with
        | cons b rest => exact ⟨.take s.sr, by simp [stepB, step, hsrlt, hbz, hin]⟩
        | nil => simp [held, ho, hbz, hin] at hh
  · -- everything read has been forwarded: the queue the reader is about to use is empty
    have hrrlt : s.rr < n := hrr ▸ Nat.mod_lt _ hn
    have hh := hheld s.rr hrrlt
    rw [owed_of_le n _ _ _ hge] at hh
    have hin : s.inputs s.rr = [] := (List.append_eq_nil_iff.mp hh).2
    have hnext : s.next < B := by omega
    exact ⟨.read, by simp [stepB, step, hin, hcap, hnext]⟩

/-- **nothing is lost**: when, after any schedule, no step is enabled any more, every block of the file has
    been given to the consumer -/
theorem complete_when_quiescent (n B : Nat) (hn : 0 < n) (sched : List Action)
    (hq : ∀ a, step n B (run n B init sched) a = none) : (run n B init sched).emitted = List.range B := by
  obtain ⟨hi, hb⟩ := inv_reachable n B hn sched
  have hlen : ¬ (run n B init sched).emitted.length < B := by
    intro hm
    obtain ⟨a, ha⟩ := enabled_of_missing n B 1 hn Nat.one_pos _ hi hm
    obtain ⟨s', hs'⟩ := Option.isSome_iff_exists.mp ha
    have := stepB_is_step n B 1 _ s' a hs'
    rw [hq a] at this
    cases this
  have hle := hi.le
  have hB : (run n B init sched).emitted.length = B := by omega
  rw [hi.emitted, hB]

/-- progress: as long as a block is missing some step is enabled (no schedule can get stuck before the end) -/
theorem not_stuck (n B : Nat) (hn : 0 < n) (sched : List Action)
    (hm : (run n B init sched).emitted ≠ List.range B) : ∃ a, step n B (run n B init sched) a ≠ none :=
  Classical.byContradiction fun h => hm (complete_when_quiescent n B hn sched (Classical.not_exists_not.mp h))

/-- **bounded channels, every schedule**: file order, nothing lost, duplicated or swapped -/
theorem order_under_every_bounded_schedule (n B cap : Nat) (hn : 0 < n) (sched : List Action) :
    ∃ m, (runB n B cap init sched).emitted = List.range m ∧ m ≤ B := by
  obtain ⟨sched', h⟩ := runB_eq_run n B cap init sched
  rw [h]
  exact order_under_every_schedule n B hn sched'

/-- **bounded channels, no deadlock**: with at least one slot per queue, in every reachable state in which a block
    is still missing some step is enabled -/
theorem not_stuck_bounded (n B cap : Nat) (hn : 0 < n) (hcap : 0 < cap) (sched : List Action)
    (hm : (runB n B cap init sched).emitted.length < B) : ∃ a, (stepB n B cap (runB n B cap init sched) a).isSome = true := by
  obtain ⟨sched', h⟩ := runB_eq_run n B cap init sched
  rw [h] at hm ⊢
  exact enabled_of_missing n B cap hn hcap _ (inv_reachable n B hn sched').1 hm

def segment (body : List String) (start stop : String) : List String :=
  ((body.dropWhile (· ≠ start)).drop 1).takeWhile (· ≠ stop)

def startsWith (pre s : String) : Bool := pre.toList.isPrefixOf s.toList

theorem startsWith_eq (pre s : String) : startsWith pre s = s.startsWith pre :=
  OsmVerif.Model.PbfScan.hasPrefix_eq_startsWith pre s

def segmentFrom (body : List String) (pre stop : String) : List String :=
  ((body.dropWhile (fun l => !startsWith pre l)).drop 1).takeWhile (· ≠ stop)

/-- reader and serializer walk the decoders with the same rule `i = (i + 1) % n`; every decoder goroutine has a
    private `dataDecoder`, handles one block at a time and forwards every result (objects or error) in the
    order taken; a restarted stream's first block goes to decoder 0 and the pointer moves on. The body of the
    decoder's loop is given in two parts: its seven lines up to the `select`, and what follows them (`drop 7`) down to
    the `append` after the goroutine. -/
theorem pipeline_shape :
    segmentFrom startBody "for dec.ctx.Err() == nil " "offset := dec.bytesRead" = ["input := dec.inputs[i]", "i = (i + 1) % n"] ∧
    startBody.contains "for i := 0; ; i = (i + 1) % n {" = true ∧
    segment startBody "for i := 0; ; i = (i + 1) % n {" "var p oPair" = ["output := dec.outputs[i]"] ∧
    segment startBody "if blobHeader.GetType() != osmHeaderType {" "}" =
      ["dec.inputs[0] <- iPair{Offset: 0, Blob: blob, Err: err}", "i = (i + 1) % n"] ∧
    segment startBody "for i := 0; i < n; i++ {" "go func() {" =
      ["input := make(chan iPair, numChanels)", "output := make(chan oPair, numChanels)", "dd := &dataDecoder{scanner: dec.scanner}"] ∧
    segment startBody "for p := range input {" "select {" =
      ["var out oPair", "if p.Err == nil {", "objects, err := dd.Decode(p.Blob)", "out = oPair{Offset: p.Offset, Objects: objects, Err: err}",
       "} else {", "out = oPair{Err: p.Err}", "}"] ∧
    (segment startBody "for p := range input {" "dec.inputs = append(dec.inputs, input)").drop 7 =
      ["select {", "case output <- out:", "case <-dec.ctx.Done():", "}", "}", "}()"] ∧
    decodeBody.contains "dec.q = make([]osm.Object, 0, 8000)" = true := by
  simp only [segmentFrom, startsWith_eq]
  decide +kernel

example : (run 3 5 init [.read, .read, .read, .take 1, .finish 1, .take 0, .read, .take 2, .finish 2, .finish 0, .emit, .emit, .emit,
    .read, .take 0, .take 1, .finish 1, .finish 0, .emit, .emit]).emitted = [0, 1, 2, 3, 4] := by decide
example : (runB 3 5 1 init [.read, .read, .read, .read, .take 0, .read, .finish 0, .emit, .take 0, .finish 0, .take 1, .finish 1, .emit]).emitted = [0, 1] := by
  decide   -- one slot per queue: the fourth read (queue 0 full) is not enabled and is skipped
example : (run 3 5 init [.read, .read, .take 1, .finish 1, .emit]).emitted = [] := by decide   -- block 1 is ready, block 0 is not

end OsmVerif.Props.C02
