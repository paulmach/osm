import OsmVerif.Props.C17
/-!
# C17 (continued) — one feature per element, except for the recorded finding

Two old-style multipolygon relations sharing their outer way give two features with that way's identity
(`one_feature_per_element_counterexample`). Everything else is unique, by an invariant of the relation pass
(`RelInv`): a way feature it emits is in the skippable set, so the way pass does not emit that way again. Then the
geometry of a route relation's feature as the join of its member ways' lines.
-/
namespace OsmVerif.Props.C17
open OsmVerif.Model.Geo OsmVerif.Model.Convert OsmVerif.Props.C16

theorem mem_skip_ite {x : Int} {c : Prop} [Decidable c] {a b : PolyParts} (ha : x ∈ a.skip) (hb : x ∈ b.skip) :
    x ∈ (if c then a else b).skip := by
  split
  · exact ha
  · exact hb

theorem polyMembers_skip_mono (d : Data) (tags : Tags) (ms : List Member) (skip : Skip) (x : Int) (hx : x ∈ skip) :
    x ∈ (polyMembers d tags ms skip).skip := by
  unfold polyMembers
  refine List.foldlRecOn (motive := fun (st : PolyParts) => x ∈ st.skip) ms _ hx ?_
  intro st hin m _
  -- each successive state of the loop body keeps `x`; the `let`s are taken one at a time, not substituted
  -- (substituting them copies the state into every field of every record update)
  -- the two early exits (not a way; a role other than inner and outer) return `st`
  show x ∈ PolyParts.skip (if m.type ≠ MType.way then st else if _ then st else _)
  refine mem_skip_ite hin (mem_skip_ite hin ?_)
  -- `st1`: `outerCount` raised for an outer member; `way?`: the way looked up, or made of the member's own nodes
  extract_lets st1 way?
  have h1 : x ∈ st1.skip := mem_skip_ite hin hin
  clear_value st1 way?
  split
  · -- `way? = none`: `st1` tainted
    exact h1
  · -- `way? = some way`. `st2`: the id of an uninteresting way appended to `skip`, the one place that changes it
    extract_lets interesting st2
    have h2 : x ∈ st2.skip := mem_skip_ite h1 (List.mem_append_left _ h1)
    clear_value st2
    -- `let (ls, t) := wayToLineString d way` is a match on the pair, with one case
    split
    · -- `st3`: tainted if the line is
      extract_lets st3
      have h3 : x ∈ st3.skip := mem_skip_ite h2 h2
      clear_value st3
      -- no line: `st3`; else the segment is added to `st3.outer` or to `st3.inner`
      exact mem_skip_ite h3 (mem_skip_ite h3 h3)

/-- what holds of the relation pass after the relations `done`: its features are relations, with their ids in
    input order, or ways that are now skippable -/
structure RelInv (st : List Feature × Skip) (done : List RelationE) : Prop where
  kinds : ∀ g ∈ st.1, g.kind = "relation" ∨ (g.kind = "way" ∧ g.id ∈ st.2)
  relIds : ((st.1.filter (fun g => g.kind = "relation")).map (·.id)).Sublist (done.map (·.id))

/-- what `RelInv` needs of one relation's step; the way feature is an old-style multipolygon's, of its outer way -/
structure RelStep (r : RelationE) (skip : Skip) (res : Option Feature × Skip) : Prop where
  mono : ∀ x ∈ skip, x ∈ res.2
  feature : ∀ f, res.1 = some f → (f.kind = "relation" ∧ f.id = r.id) ∨ (f.kind = "way" ∧ f.id ∈ res.2)

theorem buildPolygon_step (o : Opts) (d : Data) (r : RelationE) (skip : Skip) :
    RelStep r skip (buildPolygon o d r skip) := by
  rw [buildPolygon_eq]
  have hpp := polyMembers_skip_mono d (tagMap r.tags) r.members skip
  simp only []
  split
  · exact ⟨hpp, fun _ h => by cases h⟩
  · split
    · refine ⟨fun x hx => List.mem_append_left _ (hpp x hx), fun f h => ?_⟩
      cases h
      exact Or.inr ⟨rfl, List.mem_append_right _ (List.mem_singleton.mpr rfl)⟩
    · refine ⟨hpp, fun f h => ?_⟩
      cases h
      exact Or.inl ⟨rfl, rfl⟩

theorem routeStep_skip_mono (d : Data) (st : List Seg × Bool × Skip) (m : Member) (x : Int) (hin : x ∈ st.2.2) :
    x ∈ (routeStep d st m).2.2 := by
  have hs (way : WayE) : x ∈ (if hasInterestingTags way.tags none then st.2.2 else st.2.2 ++ [way.id]) := by
    split
    · exact hin
    · exact List.mem_append_left _ hin
  fun_cases routeStep d st m
  · exact hin
  · exact hin
  · exact hs _
  · exact hs _

theorem buildRoute_step (o : Opts) (d : Data) (r : RelationE) (skip : Skip) :
    RelStep r skip (buildRoute o d r skip) := by
  rw [buildRoute_eq]
  have key : ∀ x ∈ skip, x ∈ (r.members.foldl (routeStep d) ([], false, skip)).2.2 := fun x hx =>
    List.foldlRecOn (motive := fun (st : List Seg × Bool × Skip) => x ∈ st.2.2) r.members _ hx
      (fun st hin m _ => routeStep_skip_mono d st m x hin)
  simp only []
  split
  · exact ⟨key, fun _ h => by cases h⟩
  · refine ⟨key, fun f h => ?_⟩
    cases h
    exact Or.inl ⟨rfl, rfl⟩

theorem relBuild_step (o : Opts) (d : Data) (r : RelationE) (skip : Skip) : RelStep r skip (relBuild o d r skip) := by
  unfold relBuild
  split
  · exact buildRoute_step o d r skip
  · split
    · exact buildPolygon_step o d r skip
    · exact ⟨fun _ hx => hx, fun _ h => by cases h⟩

theorem relInv_step {st : List Feature × Skip} {done : List RelationE} {r : RelationE} {res : Option Feature × Skip}
    (h : RelInv st done) (hs : RelStep r st.2 res) : RelInv (st.1 ++ res.1.toList, res.2) (done ++ [r]) := by
  refine ⟨?_, ?_⟩
  · intro g hg
    rcases List.mem_append.mp hg with h1 | h1
    · exact (h.kinds g h1).imp_right (fun hw => ⟨hw.1, hs.mono _ hw.2⟩)
    · exact (hs.feature g (Option.mem_toList.mp h1)).imp_left And.left
  · -- the new feature, if it is of kind relation, carries the id of `r`
    have hnew : ((res.1.toList.filter (fun g => g.kind = "relation")).map (·.id)).Sublist [r.id] := by
      cases hfo : res.1 with
      | none => exact List.nil_sublist _
      | some f =>
        rcases hs.feature f hfo with ⟨hk, hid⟩ | ⟨hk, _⟩
        · simp [hk, hid]
        · simp [hk]
    simp only [List.filter_append, List.map_append]
    exact List.Sublist.append h.relIds hnew

theorem relationPass_inv (o : Opts) (d : Data) : RelInv (relationPass o d) d.relations := by
  rw [relationPass_eq_fold]
  refine List.foldl_prefix_induction (motive := RelInv) ⟨?_, List.Sublist.refl _⟩
    (fun st _ r h => relInv_step h (relBuild_step o d r st.2)) d.relations
  intro g hg
  cases hg

theorem filterMap_ids_nodup {α : Type} (g : α → Option Feature) (key : α → Int)
    (h : ∀ a f, g a = some f → f.id = key a) {l : List α} (hn : (l.map key).Nodup) :
    ((l.filterMap g).map (·.id)).Nodup := by
  refine List.pairwise_map.mpr ((List.pairwise_map.mp hn).filterMap g ?_)
  intro a a' hne f hf f' hf'
  rwa [h a f hf, h a' f' hf']

theorem wayPass_feature (o : Opts) (d : Data) (isP : WayE → Bool) (skip : Skip) (w : WayE) (f : Feature)
    (h : wayPass o d isP skip w = some f) : f.kind = "way" ∧ f.id = w.id ∧ skip.contains w.id = false := by
  unfold wayPass at h
  split at h
  · cases h
  · next hs =>
    have hg := way_feature_geometry o d isP w f h
    exact ⟨hg.1, hg.2.1, (Bool.not_eq_true _).mp hs⟩

theorem filter_kind {l : List Feature} {k : String} (h : ∀ f ∈ l, f.kind = k) (k' : String) :
    l.filter (fun f => f.kind = k') = if k = k' then l else [] := by
  split
  · rename_i e
    rw [List.filter_eq_self]
    intro f hf
    rw [h f hf, e]
    exact decide_eq_true rfl
  · rename_i e
    rw [List.filter_eq_nil_iff]
    intro f hf
    rw [h f hf]
    exact fun hk => e (of_decide_eq_true hk)

/-- **one feature per element, except for the recorded finding**: with distinct ids per kind in the input, the
    relation features are pairwise distinct, the node features are pairwise distinct, the way features of the way
    pass are pairwise distinct and none of them repeats a way the relation pass emitted; the only way features
    besides those of the way pass are the old-style multipolygons' (the place of the recorded duplicates) -/
theorem features_unique_except_shared_outer (o : Opts) (isP : WayE → Bool) (d : Data)
    (hr : (d.relations.map (·.id)).Nodup) (hw : (d.ways.map (·.id)).Nodup) (hn : (d.nodes.map (·.id)).Nodup) :
    (((convert o isP d).filter (fun f => f.kind = "relation")).map (·.id)).Nodup ∧
    (((convert o isP d).filter (fun f => f.kind = "node")).map (·.id)).Nodup ∧
    ((d.ways.filterMap (wayPass o d isP (relationPass o d).2)).map (·.id)).Nodup ∧
    (∀ f ∈ d.ways.filterMap (wayPass o d isP (relationPass o d).2), ∀ g ∈ (relationPass o d).1, g.kind = "way" → g.id ≠ f.id) ∧
    (convert o isP d).filter (fun f => f.kind = "way") =
      (relationPass o d).1.filter (fun f => f.kind = "way") ++ d.ways.filterMap (wayPass o d isP (relationPass o d).2) := by
  have inv := relationPass_inv o d
  have hways : ∀ f ∈ d.ways.filterMap (wayPass o d isP (relationPass o d).2), f.kind = "way" :=
    List.forall_mem_filterMap.mpr fun w _ f hwf => (wayPass_feature o d isP _ w f hwf).1
  have hnodes : ∀ f ∈ d.nodes.filterMap (nodePass o d), f.kind = "node" :=
    List.forall_mem_filterMap.mpr fun n _ f hnf => (node_feature_content o d n f hnf).1
  have fnode_rel : (relationPass o d).1.filter (fun f => f.kind = "node") = [] := by
    rw [List.filter_eq_nil_iff]
    intro f hf
    rcases inv.kinds f hf with h | ⟨h, _⟩ <;> rw [h] <;> decide
  -- `convert` appends the outputs of the three passes; a filter by kind keeps all or nothing of the way pass and of
  -- the node pass (`filter_kind`) and no node feature of the relation pass. So the first two conjuncts speak of one
  -- pass each, and the two sides of the last become the same list.
  unfold convert
  simp only [List.filter_append, filter_kind hways, filter_kind hnodes, fnode_rel, String.reduceEq, if_true, if_false,
    List.append_nil, List.nil_append]
  refine ⟨inv.relIds.nodup hr, ?_, ?_, ?_, trivial⟩
  · exact filterMap_ids_nodup (nodePass o d) (·.id) (fun n f h => (node_feature_content o d n f h).2.1) hn
  · exact filterMap_ids_nodup (wayPass o d isP (relationPass o d).2) (·.id)
      (fun w f h => (wayPass_feature o d isP _ w f h).2.1) hw
  · intro f hf g hg hk e
    obtain ⟨w, _, hwf⟩ := List.mem_filterMap.mp hf
    obtain ⟨_, hid, hns⟩ := wayPass_feature o d isP _ w f hwf
    have hin : g.id ∈ (relationPass o d).2 := ((inv.kinds g hg).resolve_left (by rw [hk]; decide)).2
    rw [e, hid] at hin
    rw [List.contains_iff_mem.mpr hin] at hns
    cases hns

/-- the line of each way member that is in the data and has coordinates, in member order -/
def routeLines (d : Data) (ms : List Member) : List Seg :=
  ms.filterMap fun m =>
    if m.type ≠ .way then none
    else match findWay d m.ref with
      | none => none
      | some way =>
        let ls := (wayToLineString d way).1
        if ls = [] then none else some (Seg.mk' 0 m.orientation ls)

/-- the geometry `buildRouteLineString` gives the joined sections -/
def routeGeom (sections : List (List Seg)) : Geom :=
  match sections with
  | [one] => Geom.lineString (lineOf one)
  | _ => Geom.multiLineString (sections.map lineOf)

theorem routeLines_fresh (d : Data) (ms : List Member) : FreshInput (routeLines d ms) := by
  intro s hs
  unfold routeLines at hs
  obtain ⟨m, _, hm⟩ := List.mem_filterMap.mp hs
  simp only at hm
  -- whichever way the member's line is found, what is emitted is a `Seg.mk'`, whose `line` is its `full`
  split at hm
  · cases hm
  · split at hm
    · cases hm
    · split at hm
      · cases hm
      · cases hm; rfl

theorem routeStep_lines (d : Data) (st : List Seg × Bool × Skip) (m : Member) :
    (routeStep d st m).1 = st.1 ++ routeLines d [m] := by
  unfold routeLines
  rw [List.filterMap_cons, List.filterMap_nil]
  fun_cases routeStep d st m
  · next hw => rw [if_pos hw, List.append_nil]
  · next hw hf => rw [if_neg hw, hf, List.append_nil]
  · next hw way hf _ t _ hl =>
    rw [if_neg hw, hf]
    simp only [hl, if_true, List.append_nil]
  · next hw way hf _ ls t hl _ hne =>
    rw [if_neg hw, hf]
    simp only [hl, if_neg hne]

theorem routeFold_lines (d : Data) (ms : List Member) (skip : Skip) :
    (ms.foldl (routeStep d) ([], false, skip)).1 = routeLines d ms := by
  refine List.foldl_prefix_induction (motive := fun (st : List Seg × Bool × Skip) done => st.1 = routeLines d done)
    rfl ?_ ms
  intro st done m h
  rw [routeStep_lines, h]
  exact (List.filterMap_append ..).symm

/-- **the feature of a route relation**: when one is emitted, its geometry is the join of exactly the member ways'
    lines (members that are ways, present in the data, with at least one coordinate), one line string when they join
    into one, a multi line string otherwise — so by `route_preserves_segments` every member line with two or more
    points is used once and every edge of it is in the geometry, none invented -/
theorem buildRoute_geometry (o : Opts) (d : Data) (r : RelationE) (skip : Skip) (f : Feature)
    (h : (buildRoute o d r skip).1 = some f) :
    routeLines d r.members ≠ [] ∧ f.geom = routeGeom (join (routeLines d r.members)) ∧
    ((((join (routeLines d r.members)).flatten).map norm).Perm ((compact (routeLines d r.members)).map norm) ∧
      ∀ ms ∈ join (routeLines d r.members), Chain ms) := by
  rw [buildRoute_eq] at h
  have hk := routeFold_lines d r.members skip
  generalize r.members.foldl (routeStep d) ([], false, skip) = st at h hk
  simp only at h
  split at h
  · cases h
  · rename_i hne
    simp only [Option.some.injEq] at h
    subst h
    rw [hk] at hne
    exact ⟨hne, by rw [hk]; rfl, route_preserves_segments _ (routeLines_fresh d r.members)⟩

end OsmVerif.Props.C17
