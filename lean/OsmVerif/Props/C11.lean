import OsmVerif.Lemmas.Annotate
import OsmVerif.Lemmas.AnnotateTs
/-!
# C11 — annotation reconstructs, for any time, the child versions that were current

Theorems about `Model.Annotate` (hand-written model of the annotation core, tied to the code by the
differential stream through `annotate.Ways` / `annotate.Relations` and by a ground-truth time-travel
oracle on simulated edit timelines).

The unconditional statements are for the **commit-time regime** (every version of parent and child
carries a commit time at or after `osm.CommitInfoStart`), where `currentAt cl t` — the last version
committed at or before `t`, if visible — is the ground truth. In that regime the code does not apply
the grouping threshold at all (`timeThresholdParent` returns the commit time unchanged), so the window
proved here, `[commit pᵢ, commit pᵢ₊₁)`, contains the one the property states.
-/
namespace OsmVerif.Props.C11
open OsmVerif.Model.Annotate

/-- a child history as the datasource hands it over, in the commit-time regime -/
structure Timeline (cl : List Child) : Prop where
  regime : CommitRegime cl
  sorted : CommitSorted cl
  indexed : WellIndexed cl

def ParentCommit (p : ParentV) (P : Int) : Prop := p.committed = some P ∧ commitInfoStart ≤ P

theorem parentTime {p : ParentV} {P : Int} (h : ParentCommit p P) (esp : Int) : timeThresholdParent p esp = P := by
  simp [timeThresholdParent, h.1, beforeStart_some h.2]

/-- the same, in the timestamp regime -/
structure TsTimeline (cl : List Child) : Prop where
  regime : TsRegime cl
  sorted : TsSorted cl
  indexed : WellIndexed cl

def ParentTs (p : ParentV) : Prop := beforeStart p.committed = true

theorem parentTimeTs {p : ParentV} (h : ParentTs p) (esp : Int) : timeThresholdParent p esp = p.ts + esp := by
  unfold ParentTs at h
  simp [timeThresholdParent, h]

theorem Timeline.placed {cl : List Child} (tl : Timeline cl) : Placed commitOf cl :=
  ⟨effTime_commit tl.regime, tl.sorted, tl.indexed⟩

theorem TsTimeline.placed {cl : List Child} (tl : TsTimeline cl) : Placed tsOf cl :=
  ⟨effTime_ts tl.regime, tl.sorted, tl.indexed⟩

/-! Below `FindVisible` the code never looks at the regime, so which versions become updates, and which of them are
stamped at or before a time `t`, is stated once, for a history `Placed` by `τ` (`Lemmas.Annotate`); what `FindVisible`
returns differs between the regimes and enters as a hypothesis. -/

section placed
variable {τ : Child → Int} {cl : List Child}

/-- `nextVersionIndex` reaches every version placed at or before `t`: `t` lies before the next
    parent version's time less the threshold, and `FindVisible`, asked about the next parent version, can only
    return a version of the history that, if placed before that time, has every such version at or below it.
    (Without a next parent version the range runs to the end of the history.) -/
theorem count_le_nextVersionIndex (pl : Placed τ cl) (o : Options) {a : Child} (ha : a ∈ cl) {t : Int} (hat : τ a ≤ t)
    (np : Option ParentV)
    (hnp : ∀ n, np = some n → t < timeThresholdParent n (-o.threshold) ∧
      ∀ nx, findVisible cl n.changeset (timeThresholdParent n 0) o.threshold = some nx → nx ∈ cl ∧
        (τ nx < timeThresholdParent n (-o.threshold) →
          (cl.filter (fun c => τ c < timeThresholdParent n (-o.threshold))).length ≤ nx.vindex + 1)) :
    (cl.filter (fun c => τ c ≤ t)).length ≤ nextVersionIndex (some a) cl np o := by
  cases np with
  | none =>
    rw [nextVersionIndex_none pl.indexed]
    exact List.length_filter_le _ _
  | some n =>
    obtain ⟨htL, hfv⟩ := hnp n rfl
    unfold nextVersionIndex
    simp only [timeThreshold_zero]
    generalize timeThresholdParent n (-o.threshold) = L at htL hfv ⊢
    have hmono : (cl.filter (fun c => τ c ≤ t)).length ≤ (cl.filter (fun c => τ c < L)).length :=
      List.length_filter_mono fun x _ h => decide_eq_true (Int.lt_of_le_of_lt (of_decide_eq_true h) htL)
    cases hnx : findVisible cl n.changeset (timeThresholdParent n 0) o.threshold with
    | some nx =>
      obtain ⟨hmem, hlast⟩ := hfv nx hnx
      simp only [pl.time nx hmem]
      split
      · next hlt => exact Nat.le_trans hmono (hlast hlt)
      · next hge =>
        -- `nx` is placed after `t`, so its position is not among those placed by `t`
        have := pl.le_iff_lt_count (pl.indexed.getElem?_vindex hmem) t
        exact Nat.le_of_not_lt fun h => hge (Int.lt_of_le_of_lt (this.mpr h) htL)
    | none =>
      simp only [pl.time a ha]
      rw [if_neg (not_not_intro (Int.lt_of_le_of_lt hat htL))]
      exact Nat.le_trans hmono (Nat.le_of_eq (pl.versionBefore_index L).symm)

/-- what one (child, parent version) step produces when `FindVisible` finds `a` and the child is consistent -/
theorem groupEffect_of_found (o : Options) (parents : List ParentV) (fid : Nat) (cl : List Child) (pidx : Nat)
    (idxs : List Nat) (p : ParentV) (hp : parents[pidx]? = some p) (hvis : p.visible = true) (a : Child)
    (hch : findVisible cl p.changeset (timeThresholdParent p 0) o.threshold = some a)
    (hcons : ∀ k c, a.vindex + 1 ≤ k → k < nextVersionIndex (some a) cl parents[pidx + 1]? o →
      cl[k]? = some c → c.visible = true) :
    groupEffect o parents fid cl pidx idxs = .ok (some
      { parent := pidx, sets := idxs.map (fun i => (i, a)),
        updates := (versionRange (a.vindex + 1) (nextVersionIndex (some a) cl parents[pidx + 1]? o)).flatMap
          (versionUpdates cl idxs) }) := by
  unfold groupEffect
  simp only [hp, hvis, not_true_eq_false, if_false, hch, Option.isNone_some, Bool.false_eq_true, false_and]
  rw [rangeUpdates_ok o pidx fid cl idxs _ _ hcons]

/-- **time travel, whatever the regime**: `Compute`'s step for one child and one visible parent version, when
    `FindVisible` gives the child reference `a`. For every `t` from the time `a` is placed at, as long as the update
    range reaches the versions placed by `t`, the updates addressed to slot `j` and stamped at or before `t` are
    exactly the versions after `a` placed at or before `t`, oldest first. -/
theorem time_travel_placed (pl : Placed τ cl) (o : Options) (parents : List ParentV) (fid pidx : Nat) (idxs : List Nat)
    (hnd : idxs.Nodup) (p : ParentV) (hp : parents[pidx]? = some p) (hvis : p.visible = true) (a : Child)
    (hch : findVisible cl p.changeset (timeThresholdParent p 0) o.threshold = some a) (ha : a ∈ cl)
    (hcons : ∀ k c, a.vindex + 1 ≤ k → k < nextVersionIndex (some a) cl parents[pidx + 1]? o →
      cl[k]? = some c → c.visible = true)
    (t : Int) (hat : τ a ≤ t)
    (hcov : (cl.filter (fun c => τ c ≤ t)).length ≤ nextVersionIndex (some a) cl parents[pidx + 1]? o)
    (j : Nat) (hj : j ∈ idxs) :
    ∃ e, groupEffect o parents fid cl pidx idxs = .ok (some e) ∧
      e.sets = idxs.map (fun i => (i, a)) ∧
      a.vindex + 1 ≤ (cl.filter (fun c => τ c ≤ t)).length ∧
      e.updates.filter (fun u => decide (u.index = j ∧ u.ts ≤ t)) =
        (versionRange (a.vindex + 1) (cl.filter (fun c => τ c ≤ t)).length).filterMap
          (fun k => cl[k]?.map (fun c => c.update j)) := by
  have hstart := Nat.succ_le_of_lt ((pl.le_iff_lt_count (pl.indexed.getElem?_vindex ha) t).mp hat)
  exact ⟨_, groupEffect_of_found o parents fid cl pidx idxs p hp hvis a hch hcons, rfl, hstart,
    pl.updates_upTo idxs hnd j hj t _ _ hcov⟩

end placed

/-- **each child reference carries the child version that was current when the parent version was committed** -/
theorem child_is_current_at_commit (cl : List Child) (tl : Timeline cl) (cid P eps : Int) :
    findVisible cl cid P eps = currentAt cl P :=
  findVisible_commit cl cid P eps tl.regime tl.sorted

theorem currentAt_position {cl : List Child} (tl : Timeline cl) {t : Int} {c : Child} (h : currentAt cl t = some c) :
    c.vindex + 1 = countAt cl t ∧ c ∈ cl ∧ commitOf c ≤ t := by
  have hl := (lastAt_of_currentAt h).1
  have hm := List.mem_filter.mp (List.mem_of_getLast? hl)
  exact ⟨tl.indexed.vindex_getLast?_filter (List.pairwise_le_closed tl.sorted t) hl, hm.1, of_decide_eq_true hm.2⟩

/-- **the update range reaches every version committed before the next parent version**: for `t` in
    `[commit pᵢ, commit pᵢ₊₁)` (all later times if there is no next version) every version committed at or
    before `t` lies below `nextVersionIndex` -/
theorem nextVersion_covers (cl : List Child) (tl : Timeline cl) (o : Options) (ch : Child) (P : Int)
    (hch : currentAt cl P = some ch) (np : Option ParentV) (t : Int) (hPt : P ≤ t)
    (hnp : match np with
      | none => True
      | some n => ∃ N, ParentCommit n N ∧ t < N) :
    countAt cl t ≤ nextVersionIndex (some ch) cl np o := by
  obtain ⟨_, hmem, hcle⟩ := currentAt_position tl hch
  refine count_le_nextVersionIndex tl.placed o hmem (Int.le_trans hcle hPt) np ?_
  intro n hn
  subst hn
  obtain ⟨N, hN, htN⟩ := hnp
  simp only [parentTime hN, child_is_current_at_commit cl tl]
  refine ⟨htN, fun nx hnx => ?_⟩
  obtain ⟨nidx, nmem, _⟩ := currentAt_position tl hnx
  -- `nx` is the last version committed at or before `N`
  exact ⟨nmem, fun _ => nidx ▸ countBefore_le_countAt cl N⟩

/-- **and no further**: no version committed after the next parent version is ever put into this version's update
    list, whatever child reference `cur` the step started from -/
theorem nextVersion_upper (cl : List Child) (tl : Timeline cl) (o : Options) (cur : Option Child) (n : ParentV) (N : Int)
    (hN : ParentCommit n N) : nextVersionIndex cur cl (some n) o ≤ countAt cl N := by
  have hvb : (match versionBefore cl N with
      | some b => b.vindex + 1
      | none => 0) ≤ countAt cl N :=
    Nat.le_trans (Nat.le_of_eq (tl.placed.versionBefore_index N)) (countBefore_le_countAt cl N)
  unfold nextVersionIndex
  simp only [parentTime hN, child_is_current_at_commit cl tl]
  cases hnx : currentAt cl N with
  | some nx =>
    -- the range ends at `nx.vindex + 1` or at `nx.vindex`, and `nx` sits at position `countAt cl N - 1`
    have nidx : nx.vindex + 1 = countAt cl N := (currentAt_position tl hnx).1
    show (if _ then nx.vindex + 1 else nx.vindex) ≤ countAt cl N
    split
    · exact Nat.le_of_eq nidx
    · exact Nat.le_of_succ_le (Nat.le_of_eq nidx)
  | none =>
    simp only
    cases cur with
    | none => exact hvb
    | some c =>
      simp only
      split
      · exact Nat.zero_le _
      · exact hvb

/-- `groupEffect_of_found` in the commit-time regime -/
theorem groupEffect_commit (o : Options) (parents : List ParentV) (fid : Nat) (cl : List Child) (tl : Timeline cl)
    (pidx : Nat) (idxs : List Nat) (p : ParentV) (hp : parents[pidx]? = some p) (hvis : p.visible = true)
    (P : Int) (hP : ParentCommit p P) (ch : Child) (hch : currentAt cl P = some ch)
    (hcons : ∀ k c, countAt cl P ≤ k → k < nextVersionIndex (some ch) cl parents[pidx + 1]? o →
      cl[k]? = some c → c.visible = true) :
    groupEffect o parents fid cl pidx idxs = .ok (some
      { parent := pidx, sets := idxs.map (fun i => (i, ch)),
        updates := (versionRange (countAt cl P) (nextVersionIndex (some ch) cl parents[pidx + 1]? o)).flatMap
          (versionUpdates cl idxs) }) := by
  obtain ⟨hstart, _, _⟩ := currentAt_position tl hch
  rw [← hstart] at hcons ⊢
  exact groupEffect_of_found o parents fid cl pidx idxs p hp hvis ch
    (by rw [parentTime hP, child_is_current_at_commit cl tl]; exact hch) hcons

/-- **time travel**: for every time `t` from the commit of this parent version up to (not including) the
    commit of the next one, the updates addressed to child slot `j` and stamped at or before `t` are exactly
    the child versions committed after the parent version and at or before `t`, oldest first — each stamped
    with its commit time — so applying them leaves the version that was current at `t` -/
theorem time_travel (o : Options) (parents : List ParentV) (fid : Nat) (cl : List Child) (tl : Timeline cl)
    (pidx : Nat) (idxs : List Nat) (hnd : idxs.Nodup) (p : ParentV) (hp : parents[pidx]? = some p) (hvis : p.visible = true)
    (P : Int) (hP : ParentCommit p P) (ch : Child) (hch : currentAt cl P = some ch)
    (hcons : ∀ k c, countAt cl P ≤ k → k < nextVersionIndex (some ch) cl parents[pidx + 1]? o →
      cl[k]? = some c → c.visible = true)
    (t : Int) (hPt : P ≤ t)
    (hnext : match parents[pidx + 1]? with
      | none => True
      | some n => ∃ N, ParentCommit n N ∧ t < N)
    (j : Nat) (hj : j ∈ idxs) :
    ∃ e, groupEffect o parents fid cl pidx idxs = .ok (some e) ∧
      e.sets = idxs.map (fun i => (i, ch)) ∧
      e.updates.filter (fun u => decide (u.index = j ∧ u.ts ≤ t)) =
        (versionRange (countAt cl P) (countAt cl t)).filterMap (fun k => cl[k]?.map (fun c => c.update j)) := by
  obtain ⟨hstart, hmem, hcle⟩ := currentAt_position tl hch
  rw [← hstart] at hcons ⊢
  obtain ⟨e, he, hsets, _, hu⟩ := time_travel_placed tl.placed o parents fid pidx idxs hnd p hp hvis ch
    (by rw [parentTime hP, child_is_current_at_commit cl tl]; exact hch) hmem hcons
    t (Int.le_trans hcle hPt) (nextVersion_covers cl tl o ch P hch parents[pidx + 1]? t hPt hnext) j hj
  exact ⟨e, he, hsets, hu⟩

/-- **deleted parent versions receive no annotations** -/
theorem deleted_parent_untouched (o : Options) (parents : List ParentV) (fid : Nat) (cl : List Child) (pidx : Nat)
    (idxs : List Nat) (p : ParentV) (hp : parents[pidx]? = some p) (hvis : p.visible = false) :
    groupEffect o parents fid cl pidx idxs = .ok none := by
  simp [groupEffect, hp, hvis]

/-- **missing child history**: the documented typed error, unless the option says to ignore it -/
theorem no_history_error (o : Options) (parents : List ParentV) (hist : Nat → Option (List Child)) (fid : Nat)
    (h : hist fid = none) :
    childEffects o parents hist fid = if o.ignoreMissing then .ok [] else .error (.noHistory fid) := by
  simp [childEffects, h]

/-- **no visible child at the parent's time**: the documented typed error carrying that time, unless ignored -/
theorem no_visible_child_error (o : Options) (parents : List ParentV) (fid : Nat) (cl : List Child) (tl : Timeline cl)
    (pidx : Nat) (idxs : List Nat) (p : ParentV) (hp : parents[pidx]? = some p) (hvis : p.visible = true)
    (P : Int) (hP : ParentCommit p P) (hno : currentAt cl P = none) (hig : o.ignoreInconsistency = false) :
    groupEffect o parents fid cl pidx idxs = .error (.noVisibleChild fid P) := by
  unfold groupEffect
  simp [hp, hvis, parentTime hP, child_is_current_at_commit cl tl, hno, hig]

/-- **child deleted between parent versions**: an invisible version inside the update range is an error
    unless inconsistencies are ignored, in which case it is skipped -/
theorem child_deleted_between_error (o : Options) (pidx fid : Nat) (cl : List Child) (idxs : List Nat)
    (start k : Nat) (c : Child) (hk : cl[k]? = some c) (hs : start ≤ k) (hinv : c.visible = false)
    (hbefore : ∀ k' c', start ≤ k' → k' < k → cl[k']? = some c' → c'.visible = true) :
    rangeUpdates o pidx fid cl idxs start (k + 1) =
      if o.ignoreInconsistency then .ok ((versionRange start k).flatMap (versionUpdates cl idxs))
      else .error (.deletedBetween pidx fid) := by
  have hv : visibleAt cl k = false := by rw [visibleAt, hk]; exact hinv
  rw [rangeUpdates_succ o pidx fid cl idxs hs, rangeUpdates_ok o pidx fid cl idxs k start hbefore, hv]
  rfl

/-! Before `osm.CommitInfoStart` there are no commit times (the timestamp regime): the child reference is chosen by
`FindVisible`'s grouping heuristic (closest visible version within the threshold around the parent's time stamp,
versions stamped after it only when they belong to the parent's changeset), so *which* version the reference carries
in `[ts pᵢ, ts pᵢ + threshold)` is the heuristic's choice and nothing is claimed there. From `ts pᵢ + threshold` up to
`ts pᵢ₊₁ - threshold` ("before the next version, less the grouping threshold") the claim is the same as in the
commit-time regime, with time stamps as ground truth. -/

theorem countTs_mono (cl : List Child) {t u : Int} (h : t ≤ u) : countTs cl t ≤ countTs cl u :=
  List.length_filter_mono fun x _ hx => by simp only [decide_eq_true_eq] at hx ⊢; omega

/-- **the version the child reference gets in the timestamp regime**: a visible version of the child stamped no
    later than the parent's time stamp plus the threshold, and no later than the parent's time stamp itself
    unless it belongs to the parent's changeset (forward grouping is same-changeset only) -/
theorem child_choice_ts (cl : List Child) (tl : TsTimeline cl) (cid T eps : Int) (heps : 0 ≤ eps) (a : Child)
    (h : findVisible cl cid T eps = some a) :
    a ∈ cl ∧ a.visible = true ∧ a.ts ≤ T + eps ∧ (a.ts ≤ T ∨ a.changeset = cid) :=
  findVisible_ts_sound cl cid T eps heps tl.regime a h

/-- the update range reaches every version stamped before the next parent version less the threshold -/
theorem nextVersion_covers_ts (cl : List Child) (tl : TsTimeline cl) (o : Options) (heps : 0 ≤ o.threshold)
    (a : Child) (ha : a ∈ cl) (t : Int) (hat : a.ts ≤ t) (np : Option ParentV)
    (hnp : match np with
      | none => True
      | some n => ParentTs n ∧ t < n.ts - o.threshold) :
    countTs cl t ≤ nextVersionIndex (some a) cl np o := by
  refine count_le_nextVersionIndex tl.placed o ha (show tsOf a ≤ t from hat) np ?_
  intro n hn
  subst hn
  obtain ⟨hn, htN⟩ := hnp
  simp only [parentTimeTs hn, Int.add_zero]
  refine ⟨by omega, fun nx hnx => ⟨(findVisible_ts_sound cl _ _ _ heps tl.regime nx hnx).1, fun hlt => ?_⟩⟩
  -- a version `FindVisible` returns from before the window is the last one stamped before it
  have hlast := findVisible_ts_before cl _ _ _ heps tl.regime tl.sorted nx hnx hlt
  exact Nat.le_of_eq (tl.indexed.vindex_getLast?_filter (List.pairwise_lt_closed tl.sorted _) hlast).symm

/-- **time travel in the timestamp regime**: once the grouping threshold has passed (`ts pᵢ + threshold ≤ t`) and
    up to the next parent version less the threshold (`t < ts pᵢ₊₁ - threshold`), the child reference `a` was
    stamped at or before `t`, and the updates addressed to child slot `j` and stamped at or before `t` are exactly
    the child versions after `a` stamped at or before `t`, oldest first, each stamped with its own time stamp —
    so applying them leaves the last version stamped at or before `t`, the one that was current at `t` -/
theorem time_travel_ts (o : Options) (heps : 0 ≤ o.threshold) (parents : List ParentV) (fid : Nat) (cl : List Child)
    (tl : TsTimeline cl) (pidx : Nat) (idxs : List Nat) (hnd : idxs.Nodup) (p : ParentV) (hp : parents[pidx]? = some p)
    (hvis : p.visible = true) (hP : ParentTs p) (a : Child)
    (hch : findVisible cl p.changeset p.ts o.threshold = some a)
    (hcons : ∀ k c, a.vindex + 1 ≤ k → k < nextVersionIndex (some a) cl parents[pidx + 1]? o →
      cl[k]? = some c → c.visible = true)
    (t : Int) (hPt : p.ts + o.threshold ≤ t)
    (hnext : match parents[pidx + 1]? with
      | none => True
      | some n => ParentTs n ∧ t < n.ts - o.threshold)
    (j : Nat) (hj : j ∈ idxs) :
    ∃ e, groupEffect o parents fid cl pidx idxs = .ok (some e) ∧
      e.sets = idxs.map (fun i => (i, a)) ∧
      a.vindex + 1 ≤ countTs cl t ∧
      e.updates.filter (fun u => decide (u.index = j ∧ u.ts ≤ t)) =
        (versionRange (a.vindex + 1) (countTs cl t)).filterMap (fun k => cl[k]?.map (fun c => c.update j)) := by
  obtain ⟨hmem, _, hats, _⟩ := findVisible_ts_sound cl _ _ _ heps tl.regime a hch
  have hat : a.ts ≤ t := by omega
  exact time_travel_placed tl.placed o parents fid pidx idxs hnd p hp hvis a
    (by rw [parentTimeTs hP, Int.add_zero]; exact hch) hmem hcons t hat
    (nextVersion_covers_ts cl tl o heps a hmem t hat parents[pidx + 1]? hnext) j hj

/-- the version at position `countTs t - 1`, where the updates of `time_travel_ts` end, is the last version stamped
    at or before `t` (`lastTs`) -/
theorem time_travel_ts_last (cl : List Child) (tl : TsTimeline cl) (t : Int) (h0 : countTs cl t ≠ 0) :
    lastTs cl t = cl[countTs cl t - 1]? := by
  unfold lastTs
  rw [List.getLast?_filter_of_pairwise (List.pairwise_le_closed tl.sorted t)]
  exact if_neg h0

/-! ## non-vacuity: a three-version node under two way versions -/
def exCl : List Child := [
  ⟨1, 10, 0, 1400000000, some 1400000000, 1, 1, true, false⟩,
  ⟨2, 11, 1, 1400000100, some 1400000100, 2, 2, true, false⟩,
  ⟨3, 12, 2, 1400000300, some 1400000300, 3, 3, true, false⟩]
def exParents : List ParentV := [⟨10, true, 1400000050, some 1400000050, [(7, false)]⟩, ⟨12, true, 1400000300, some 1400000300, [(7, false)]⟩]
theorem exCl_timeline : Timeline exCl :=
  ⟨commitRegime_of (by decide), by unfold CommitSorted; decide, wellIndexed_of_map (by decide)⟩
example : Timeline exCl := exCl_timeline
/-- a history with a deleted version inside the update range: the documented error, or skipped when ignored -/
def exDel : List Child := [
  ⟨1, 10, 0, 1400000000, some 1400000000, 1, 1, true, false⟩,
  ⟨2, 11, 1, 1400000100, some 1400000100, 0, 0, false, false⟩,
  ⟨3, 12, 2, 1400000200, some 1400000200, 3, 3, true, false⟩]
example : (match groupEffect ⟨1800, false, false, 0⟩ exParents 7 exDel 0 [0] with
    | .error (.deletedBetween p f) => some (p, f)
    | _ => none) = some (0, 7) := by decide
example : (match groupEffect ⟨1800, true, false, 0⟩ exParents 7 exDel 0 [0] with
    | .ok (some e) => e.updates.map (·.version)
    | _ => []) = [3] := by decide
example : currentAt exCl 1400000050 = some ⟨1, 10, 0, 1400000000, some 1400000000, 1, 1, true, false⟩ := by decide
example : (match groupEffect ⟨1800, false, false, 0⟩ exParents 7 exCl 0 [0] with
    | .ok (some e) => e.updates.map (·.version)
    | _ => []) = [2] := by decide

/-! non-vacuity in the timestamp regime: 2009 data, threshold 30 min; the node's second version belongs to the
way's changeset and follows it by 5 s (grouped forward), the third comes an hour later -/
def exTs : List Child := [
  ⟨1, 10, 0, 1250000000, none, 1, 1, true, false⟩,
  ⟨2, 11, 1, 1250001005, none, 2, 2, true, false⟩,
  ⟨3, 12, 2, 1250004600, none, 3, 3, true, false⟩]
def exTsParents : List ParentV := [⟨11, true, 1250001000, none, [(7, false)]⟩, ⟨13, true, 1250010000, none, [(7, false)]⟩]
theorem exTs_timeline : TsTimeline exTs :=
  ⟨by unfold TsRegime; decide, by unfold TsSorted; decide, wellIndexed_of_map (by decide)⟩
example : TsTimeline exTs := exTs_timeline
example : findVisible exTs 11 1250001000 1800 = some ⟨2, 11, 1, 1250001005, none, 2, 2, true, false⟩ := by decide
example : (match groupEffect ⟨1800, false, false, 0⟩ exTsParents 7 exTs 0 [0] with
    | .ok (some e) => e.updates.map (fun u => (u.version, u.ts))
    | _ => []) = [(3, 1250004600)] := by decide
example : countTs exTs 1250005000 = 3 := by decide

/-- every hypothesis of `time_travel_ts` is met by this history at `t = 1250005000`: the conclusion is the single
    update of version 3 -/
example : ∃ e, groupEffect ⟨1800, false, false, 0⟩ exTsParents 7 exTs 0 [0] = .ok (some e) ∧
    e.updates.filter (fun u => decide (u.index = 0 ∧ u.ts ≤ 1250005000)) =
      (versionRange 2 3).filterMap (fun k => exTs[k]?.map (fun c => c.update 0)) := by
  have h := time_travel_ts ⟨1800, false, false, 0⟩ (by decide) exTsParents 7 exTs exTs_timeline 0 [0] (by decide)
    ⟨11, true, 1250001000, none, [(7, false)]⟩ rfl rfl (by unfold ParentTs; decide)
    ⟨2, 11, 1, 1250001005, none, 2, 2, true, false⟩ (by decide)
    (fun k c _ _ h3 => (by decide : ∀ c ∈ exTs, c.visible = true) c (List.mem_of_getElem? h3))
    1250005000 (by decide) (by
      show ParentTs _ ∧ _
      exact ⟨by unfold ParentTs; decide, by decide⟩) 0 (by simp)
  obtain ⟨e, he, _, _, hu⟩ := h
  refine ⟨e, he, ?_⟩
  have hc : countTs exTs 1250005000 = 3 := by decide
  rw [hc] at hu
  exact hu

/-- every hypothesis of `time_travel` (commit-time regime) is met by `exCl` under the first way version at
    `t = 1400000200`: the way shows version 1 at its commit, and exactly the update of version 2 up to `t` -/
example : ∃ e, groupEffect ⟨1800, false, false, 0⟩ exParents 7 exCl 0 [0] = .ok (some e) ∧
    e.updates.filter (fun u => decide (u.index = 0 ∧ u.ts ≤ 1400000200)) =
      (versionRange 1 2).filterMap (fun k => exCl[k]?.map (fun c => c.update 0)) := by
  have h := time_travel ⟨1800, false, false, 0⟩ exParents 7 exCl exCl_timeline 0 [0] (by decide)
    ⟨10, true, 1400000050, some 1400000050, [(7, false)]⟩ rfl rfl 1400000050 ⟨rfl, by decide⟩
    ⟨1, 10, 0, 1400000000, some 1400000000, 1, 1, true, false⟩ (by decide)
    (fun k c _ _ h3 => (by decide : ∀ c ∈ exCl, c.visible = true) c (List.mem_of_getElem? h3))
    1400000200 (by decide) (by
      show ∃ N, ParentCommit _ N ∧ _
      exact ⟨1400000300, ⟨rfl, by decide⟩, by decide⟩) 0 (by simp)
  obtain ⟨e, he, _, hu⟩ := h
  refine ⟨e, he, ?_⟩
  have h1 : countAt exCl 1400000050 = 1 := by decide
  have h2 : countAt exCl 1400000200 = 2 := by decide
  rw [h1, h2] at hu
  exact hu

end OsmVerif.Props.C11
