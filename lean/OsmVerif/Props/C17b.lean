import OsmVerif.Props.C17
/-!
# C17 (continued) — IncludeInvalidPolygons only adds

`IncludeInvalidPolygons(true)` documents that polygons with a missing outer ring, and rings whose end points do not
match, are returned too. Only `buildPolygon` looks at it, and only for its `geometry` (`polyGeom`), where turning it
on never loses a geometry; everything else is the same function (`rfl`) or follows relation by relation. What it
does to the geometry of a multipolygon with several outer rings is not characterised: invalid outer rings are kept
as further polygons and holes are assigned among all of them, so a hole can move.
-/
namespace OsmVerif.Props.C17
open OsmVerif.Model.Geo OsmVerif.Model.Convert

def withInvalid (o : Opts) : Opts := { o with includeInvalidPolygons := true }

theorem withInvalid_noID (o : Opts) : (withInvalid o).noID = o.noID := rfl
theorem withInvalid_inc (o : Opts) : (withInvalid o).includeInvalidPolygons = true := rfl

theorem relationsProp_withInvalid (o : Opts) (d : Data) (t : MType) (id : Int) :
    relationsProp (withInvalid o) d t id = relationsProp o d t id := rfl

theorem metaProp_withInvalid (o : Opts) (m : Meta) : metaProp (withInvalid o) m = metaProp o m := rfl

theorem buildRoute_withInvalid (o : Opts) (d : Data) (r : RelationE) (skip : Skip) :
    buildRoute (withInvalid o) d r skip = buildRoute o d r skip := rfl

theorem wayPass_withInvalid (o : Opts) (d : Data) (isP : WayE → Bool) (skip : Skip) :
    wayPass (withInvalid o) d isP skip = wayPass o d isP skip := rfl

theorem nodePass_withInvalid (o : Opts) (d : Data) : nodePass (withInvalid o) d = nodePass o d := rfl

/-- `addToMultiPolygon`'s two searches (`place`, `placeEmpty`) have one shape: the ring goes into the first polygon
    that passes a test, and no polygon is added or dropped -/
theorem length_of_addToFirst {ring : List P} {c : List (List P) → Prop} [DecidablePred c]
    {go : List (List (List P)) → Option (List (List (List P)))} (h0 : go [] = none)
    (h1 : ∀ poly rest, go (poly :: rest) = if c poly then some ((poly ++ [ring]) :: rest) else (go rest).map (poly :: ·)) :
    ∀ {mp r}, go mp = some r → r.length = mp.length := by
  intro mp
  induction mp with
  | nil =>
    intro r h
    rw [h0] at h
    cases h
  | cons poly rest ih =>
    intro r h
    rw [h1] at h
    split at h
    · cases h
      rfl
    · obtain ⟨r', hr', rfl⟩ := Option.map_eq_some_iff.mp h
      rw [List.length_cons, List.length_cons, ih hr']

theorem addToMultiPolygon_length (mp : List (List (List P))) (ring : List P) (b : Bool) :
    mp.length ≤ (addToMultiPolygon mp ring b).length := by
  fun_cases addToMultiPolygon mp ring b
  · -- contained in an outer ring (`place`): the ring goes there
    next hp => exact Nat.le_of_eq (length_of_addToFirst rfl (fun _ _ => rfl) hp).symm
  · -- in none, and `!includeInvalidPolygons`: inner without its outer, dropped
    exact Nat.le_refl _
  · -- `len(mp) > 0` and the first polygon's outer ring is open: the ring goes there
    exact Nat.le_refl _
  · -- a polygon with empty outer exists (`placeEmpty`): the ring goes there
    next hr =>
    rw [hr]
    exact Nat.le_of_eq (length_of_addToFirst rfl (fun _ _ => rfl) hr).symm
  · -- none: a new polygon with empty outer
    next hr =>
    rw [hr]
    simp
  · -- `mp` empty: a new polygon with empty outer
    simp

theorem fold_add_length (b : Bool) (f : List Seg → List P) (inners : List (List Seg)) (mp : List (List (List P))) :
    mp.length ≤ (inners.foldl (fun mp is => addToMultiPolygon mp (f is) b) mp).length :=
  List.foldlRecOn inners _ (motive := fun (m : List (List (List P))) => mp.length ≤ m.length) (Nat.le_refl _)
    (fun m h is _ => Nat.le_trans h (addToMultiPolygon_length m (f is) b))

theorem polyGeom_keeps (pp : PolyParts) (g : Geom) (h : polyGeom false pp = some g) : ∃ g', polyGeom true pp = some g' := by
  by_cases h1 : pp.outer.length = 1 ∧ pp.outerCount = 1
  · rw [polyGeom_single h1.1 h1.2] at h ⊢
    exact ⟨g, h⟩
  · cases hj : join pp.outer with
    | nil =>
      -- without the option some valid outer ring was kept, so `Join` made at least one group of outer members
      unfold polyGeom at h
      rw [if_neg h1, hj] at h
      split at h <;> cases h
    | cons os rest =>
      -- with it every group gives a polygon, and adding holes never removes one
      unfold polyGeom
      rw [if_neg (fun hh => hh.2 rfl), if_neg h1, hj]
      simp only [List.filterMap_cons, not_true_eq_false, false_and, and_false, if_false]
      have hlen := fold_add_length true (fun is => ringOf is (-1)) (join pp.inner)
        ([ringOf os 1] :: rest.filterMap fun os => some [ringOf os 1])
      generalize List.foldl _ _ (join pp.inner) = mp at hlen ⊢
      match mp, hlen with
      | [_], _ => exact ⟨_, rfl⟩
      | _ :: _ :: _, _ => exact ⟨_, rfl⟩

def SameButGeom (f f' : Feature) : Prop := f' = { f with geom := f'.geom }

/-- **turning the option on never loses a feature and changes nothing but its geometry** -/
theorem buildPolygon_keeps (o : Opts) (hoff : o.includeInvalidPolygons = false) (d : Data) (r : RelationE) (skip : Skip)
    (f : Feature) (h : (buildPolygon o d r skip).1 = some f) :
    ∃ f', (buildPolygon (withInvalid o) d r skip).1 = some f' ∧ SameButGeom f f' := by
  rw [buildPolygon_eq] at h ⊢
  simp only [withInvalid_inc, hoff] at h ⊢
  generalize polyMembers d (tagMap r.tags) r.members skip = pp at h ⊢
  cases hg : polyGeom false pp with
  | none => rw [hg] at h; cases h
  | some g =>
    obtain ⟨g', hg'⟩ := polyGeom_keeps pp g hg
    rw [hg] at h
    rw [hg']
    -- the same element either way: only `geom` differs between the two features
    generalize oldStyleWay r pp = ow at h ⊢
    cases ow with
    | none => cases h; exact ⟨_, rfl, rfl⟩
    | some w => cases h; exact ⟨_, rfl, rfl⟩

/-- the skippable set after one multipolygon relation, written without reference to the options -/
def polySkip (d : Data) (r : RelationE) (skip : Skip) : Skip :=
  let pp := polyMembers d (tagMap r.tags) r.members skip
  if pp.outer.length = 1 ∧ pp.outerCount = 1 ∧ ringValid (ringOf pp.outer 1) then
    match pp.outerWay with
    | some ow => if ¬ hasInterestingTags r.tags (some [("type", findTag r.tags "type")]) then pp.skip ++ [ow.id] else pp.skip
    | none => pp.skip
  else pp.skip

/-- **the skippable set does not depend on the options** (so the way pass sees the same ways) -/
theorem buildPolygon_skip (o : Opts) (d : Data) (r : RelationE) (skip : Skip) :
    (buildPolygon o d r skip).2 = polySkip d r skip := by
  rw [buildPolygon_eq]
  unfold polySkip
  simp only []
  generalize polyMembers d (tagMap r.tags) r.members skip = pp
  by_cases h1 : pp.outer.length = 1 ∧ pp.outerCount = 1
  · -- a single outer member: there is a geometry exactly when its ring is valid
    rw [polyGeom_single h1.1 h1.2]
    by_cases hv : ringValid (ringOf pp.outer 1) = true
    · rw [if_neg (not_not_intro hv), if_pos ⟨h1.1, h1.2, hv⟩]
      unfold oldStyleWay
      by_cases ht : ¬ hasInterestingTags r.tags (some [("type", findTag r.tags "type")]) = true
      · rw [if_pos ⟨h1.1, h1.2, ht⟩]
        cases pp.outerWay with
        | none => rfl
        | some ow => exact (if_pos ht).symm
      · rw [if_neg (fun h : _ ∧ _ ∧ _ => ht h.2.2)]
        cases pp.outerWay with
        | none => rfl
        | some ow => exact (if_neg ht).symm
    · rw [if_pos hv, if_neg (fun h : _ ∧ _ ∧ _ => hv h.2.2)]
  · -- otherwise no way is taken over, whether or not there is a geometry
    rw [oldStyleWay_eq_none h1, if_neg (fun h : _ ∧ _ ∧ _ => h1 ⟨h.1, h.2.1⟩)]
    cases polyGeom o.includeInvalidPolygons pp <;> rfl

/-- a multipolygon with a single outer member does not consult the option at all -/
theorem buildPolygon_single_indep (o : Opts) (d : Data) (r : RelationE) (skip : Skip)
    (hne : (polyMembers d (tagMap r.tags) r.members skip).outer.length = 1)
    (hc : (polyMembers d (tagMap r.tags) r.members skip).outerCount = 1) :
    buildPolygon (withInvalid o) d r skip = buildPolygon o d r skip := by
  rw [buildPolygon_eq, buildPolygon_eq]
  simp only []
  rw [polyGeom_single hne hc, polyGeom_single hne hc]
  rfl

/-- a feature with its geometry blanked: what identifies the element and everything the option must not touch -/
def eraseGeom (f : Feature) : Feature := { f with geom := .point (0, 0) }

theorem eraseGeom_of_same {f f' : Feature} (h : SameButGeom f f') : eraseGeom f' = eraseGeom f := by
  unfold SameButGeom at h
  rw [h]; rfl

theorem relBuild_sublist (o : Opts) (hoff : o.includeInvalidPolygons = false) (d : Data) (r : RelationE) (skip : Skip) :
    (relBuild (withInvalid o) d r skip).2 = (relBuild o d r skip).2 ∧
    ((relBuild o d r skip).1.toList.map eraseGeom).Sublist ((relBuild (withInvalid o) d r skip).1.toList.map eraseGeom) := by
  unfold relBuild
  split
  · exact ⟨rfl, List.Sublist.refl _⟩
  · split
    · refine ⟨by rw [buildPolygon_skip, buildPolygon_skip], ?_⟩
      cases h : (buildPolygon o d r skip).1 with
      | none => exact List.nil_sublist _
      | some f =>
        obtain ⟨f', h', hs⟩ := buildPolygon_keeps o hoff d r skip f h
        simp [h', eraseGeom_of_same hs]
    · exact ⟨rfl, List.Sublist.refl _⟩

theorem relationPass_sublist (o : Opts) (hoff : o.includeInvalidPolygons = false) (d : Data) :
    (relationPass (withInvalid o) d).2 = (relationPass o d).2 ∧
    ((relationPass o d).1.map eraseGeom).Sublist ((relationPass (withInvalid o) d).1.map eraseGeom) := by
  rw [relationPass_eq_fold, relationPass_eq_fold]
  refine List.foldl_rel (r := fun (st' st : List Feature × Skip) =>
    st'.2 = st.2 ∧ (st.1.map eraseGeom).Sublist (st'.1.map eraseGeom)) ⟨rfl, List.Sublist.refl _⟩ ?_
  intro r _ st' st ⟨h2, hs⟩
  have hb := relBuild_sublist o hoff d r st.2
  rw [h2]
  exact ⟨hb.1, by simpa only [List.map_append] using List.Sublist.append hs hb.2⟩

/-- **IncludeInvalidPolygons only adds, and only to multipolygon relations**: with the option on, the way pass
    sees the same skippable set and way and node features are identical; and every feature of the output without
    the option is still in the output with it, in the same order, identical but possibly for its geometry -/
theorem convert_includeInvalid (o : Opts) (hoff : o.includeInvalidPolygons = false) (isP : WayE → Bool) (d : Data) :
    (relationPass (withInvalid o) d).2 = (relationPass o d).2 ∧
    convert (withInvalid o) isP d =
      (relationPass (withInvalid o) d).1 ++ d.ways.filterMap (wayPass o d isP (relationPass o d).2) ++ d.nodes.filterMap (nodePass o d) ∧
    ((convert o isP d).map eraseGeom).Sublist ((convert (withInvalid o) isP d).map eraseGeom) := by
  have hf := relationPass_sublist o hoff d
  refine ⟨hf.1, ?_, ?_⟩
  · unfold convert
    simp only [wayPass_withInvalid, nodePass_withInvalid, hf.1]
  · unfold convert
    simp only [wayPass_withInvalid, nodePass_withInvalid, hf.1, List.map_append]
    exact (hf.2.append (List.Sublist.refl _)).append (List.Sublist.refl _)

/-- what `buildPolygon` asks of an outer ring unless `IncludeInvalidPolygons`: closed, with at least four points -/
theorem ringValid_iff (r : List P) : ringValid r = true ↔ 4 ≤ r.length ∧ r.head? = r.getLast? := by
  simp [ringValid]

/-! non-vacuity: a multipolygon with a closed outer ring and an open one (two ways that do not close): without
the option the open ring is dropped, with it the same relation feature has both -/
def exInv : Data := {
  nodes := [],
  ways := [⟨7, [⟨1, 1, 1⟩, ⟨2, 5, 1⟩, ⟨3, 5, 5⟩], [], {}⟩, ⟨8, [⟨3, 5, 5⟩, ⟨4, 1, 5⟩], [], {}⟩,
           ⟨9, [⟨5, 20, 20⟩, ⟨6, 30, 20⟩, ⟨7, 30, 30⟩, ⟨5, 20, 20⟩], [], {}⟩],
  relations := [⟨100, [⟨.way, 7, "outer", 0, []⟩, ⟨.way, 8, "outer", 0, []⟩, ⟨.way, 9, "outer", 0, []⟩],
    [("type", "multipolygon"), ("landuse", "forest")], {}⟩] }
example : (convert {} (fun _ => false) exInv).map (fun f => (f.kind, f.id, f.geom)) =
    [("relation", 100, .polygon [[(20, 20), (30, 20), (30, 30), (20, 20)]])] := by decide
example : (convert (withInvalid {}) (fun _ => false) exInv).map (fun f => (f.kind, f.id, f.geom)) =
    [("relation", 100, .multiPolygon [[[(20, 20), (30, 20), (30, 30), (20, 20)]], [[(1, 1), (5, 1), (5, 5), (1, 5)]]])] := by decide

end OsmVerif.Props.C17
