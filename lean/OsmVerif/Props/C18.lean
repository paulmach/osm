import OsmVerif.Model.Polygon
import OsmVerif.Spec.PolygonPublished
import OsmVerif.Lemmas.Search
import OsmVerif.Lemmas.List
/-!
# C18 — area classification follows the published polygon-features rules

`Gen.Polygon.table` / `initSortsValues` are regenerated from polygon.go on every run;
`Model.Polygon.wayPolygon` is the hand-written model of `Way.Polygon` (tied by the exhaustive
differential stream); `Spec.Polygon.published` / `isArea` is the published table and its
declarative meaning.
-/
namespace OsmVerif.Props.C18
open OsmVerif.Gen.Polygon OsmVerif.Model.Polygon OsmVerif.Spec.Polygon

/-- the table embedded in the source is the published one, entry by entry -/
theorem gen_table_eq_published : table = published := rfl

/-- `init` sorts the value lists (`initSortsValues`), so the list searched at run time is the sorted one -/
theorem effectiveValues_eq (c : Cond) : effectiveValues c = isort c.values := rfl

/-- every rule's value list is sorted when it is searched (this is where the start-up sort matters) -/
theorem effective_values_sorted (c : Cond) : Sorted (effectiveValues c) := by
  rw [effectiveValues_eq]
  exact isort_sorted _

theorem find_eq_lookup (tags : Tags) (k : String) : find tags k = lookup tags k := by
  induction tags with
  | nil => rfl
  | cons t ts ih => obtain ⟨a, b⟩ := t; simp [find, lookup, ih]

theorem has_eq_present (tags : Tags) (k : String) : has tags k = present tags k := by
  induction tags with
  | nil => rfl
  | cons t ts ih => obtain ⟨a, b⟩ := t; simp [has, present, ih]

/-- the binary-search test of one rule = membership test of the published rule -/
theorem condMatches_eq (c : Cond) (v : String) (h2 : v ≠ "no") :
    condMatches c v = ruleHolds c true v := by
  have key : (searchStrings (effectiveValues c) v ≠ (effectiveValues c).length ∧
      (effectiveValues c).getD (searchStrings (effectiveValues c) v) "" = v) ↔ v ∈ c.values :=
    (searchStrings_mem (effectiveValues c) (effective_values_sorted c) v).trans (effectiveValues_eq c ▸ mem_isort v c.values)
  unfold condMatches ruleHolds
  cases c.kind
  · simp [h2]
  · simp [h2, ← key]
  · simp [h2, ← key]
  · simp

theorem ruleLoop_eq_any (tags : Tags) (cs : List Cond) :
    ruleLoop tags cs = cs.any fun c => ruleHolds c (present tags c.key) (lookup tags c.key) := by
  induction cs with
  | nil => rfl
  | cons c rest ih =>
    simp only [ruleLoop, List.any_cons, find_eq_lookup, has_eq_present, ih]
    -- a rule is skipped when its key is absent or its value is `no`; otherwise `condMatches_eq` applies
    by_cases h1 : present tags c.key = true <;> by_cases h2 : lookup tags c.key = "no" <;>
      simp [h1, h2, ruleHolds, condMatches_eq]

/-- **C18, main statement.** For all node-ref lists and all tag lists, `Way.Polygon` answers exactly
    the published rule: closed, more than three refs, never for `area=no`, always for another
    non-empty `area`, otherwise some listed key with a value ≠ no passing its all/white/blacklist rule. -/
theorem polygon_iff_published (nodes : List Int) (tags : Tags) :
    wayPolygon nodes tags = isArea nodes.length (nodes.head? = nodes.getLast?) tags := by
  -- the model's loop and lookups are the specification's; what is left are the two guards on the node list
  simp only [wayPolygon, isArea, find_eq_lookup, ruleLoop_eq_any, gen_table_eq_published]
  by_cases hl : nodes.length ≤ 3
  · simp [hl, Nat.not_lt.mpr hl]
  · by_cases hc : nodes.head? = nodes.getLast? <;> simp [hl, hc, Nat.not_le.mp hl]

/-- the answer depends on the tags only through the values of `area` and the listed keys -/
theorem polygon_depends_on_listed_keys (nodes : List Int) (t1 t2 : Tags)
    (h : ∀ k, k = "area" ∨ k ∈ published.map (·.key) → lookup t1 k = lookup t2 k ∧ present t1 k = present t2 k) :
    wayPolygon nodes t1 = wayPolygon nodes t2 := by
  rw [polygon_iff_published, polygon_iff_published]
  unfold isArea
  have ha := (h "area" (Or.inl rfl)).1
  have hany : (published.any fun c => ruleHolds c (present t1 c.key) (lookup t1 c.key)) =
      (published.any fun c => ruleHolds c (present t2 c.key) (lookup t2 c.key)) := by
    apply List.any_congr_mem
    intro c hc
    have := h c.key (Or.inr (List.mem_map.mpr ⟨c, hc, rfl⟩))
    rw [this.1, this.2]
  simp only [ha, hany]

theorem present_iff_mem (t : Tags) (k : String) : present t k = true ↔ k ∈ t.map (·.1) := by
  induction t with
  | nil => simp [present]
  | cons x xs ih =>
    obtain ⟨a, b⟩ := x
    simp only [present, List.map_cons, List.mem_cons, Bool.or_eq_true, beq_iff_eq, ih]
    rw [eq_comm]

theorem present_perm {t1 t2 : Tags} (hp : t1.Perm t2) (k : String) : present t1 k = present t2 k := by
  rw [Bool.eq_iff_iff, present_iff_mem, present_iff_mem]
  exact (hp.map _).mem_iff

theorem lookup_eq_find? (t : Tags) (k : String) : lookup t k = ((t.find? (·.1 = k)).map (·.2)).getD "" := by
  induction t with
  | nil => rfl
  | cons x xs ih =>
    obtain ⟨a, b⟩ := x
    by_cases h : a = k <;> simp [lookup, h, ih]

theorem lookup_perm {t1 t2 : Tags} (hp : t1.Perm t2) (hn : (t1.map (·.1)).Nodup) (k : String) :
    lookup t1 k = lookup t2 k := by
  rw [lookup_eq_find?, lookup_eq_find?, List.find?_key_perm hp hn]

/-- tag order does not matter (tag lists with distinct keys, as OSM requires) -/
theorem polygon_perm_invariant (nodes : List Int) (t1 t2 : Tags) (hp : t1.Perm t2)
    (hn : (t1.map (·.1)).Nodup) : wayPolygon nodes t1 = wayPolygon nodes t2 :=
  polygon_depends_on_listed_keys nodes t1 t2 (fun k _ => ⟨lookup_perm hp hn k, present_perm hp k⟩)

/-- unrelated tags do not matter -/
theorem polygon_unrelated_tags (nodes : List Int) (t : Tags) (k v : String)
    (hk : k ≠ "area") (hk2 : k ∉ published.map (·.key)) :
    wayPolygon nodes ((k, v) :: t) = wayPolygon nodes t := by
  apply polygon_depends_on_listed_keys
  intro k' hk'
  have : k ≠ k' := by
    rcases hk' with e | e
    · subst e; exact hk
    · intro e2; subst e2; exact hk2 e
  simp [lookup, present, this]

/-- a relation is an area exactly when its type tag is multipolygon or boundary -/
theorem relation_polygon_iff (tags : Tags) :
    relationPolygon tags = true ↔ lookup tags "type" = "multipolygon" ∨ lookup tags "type" = "boundary" := by
  simp [relationPolygon, find_eq_lookup]

example : wayPolygon [1, 2, 3, 1] [("building", "yes")] = true := by decide
example : wayPolygon [1, 2, 1] [("building", "yes")] = false := by decide
-- an empty value is a value: the key is present and its value is not `no`
example : wayPolygon [1, 2, 3, 1] [("building", "")] = true := by decide
-- where the rule has a value list, the specification's membership test is evaluated in place of the model's sort
-- and search, which `decide` can do too but is slow to check
example : wayPolygon [1, 2, 3, 1] [("highway", "")] = false := by rw [polygon_iff_published]; decide
example : wayPolygon [1, 2, 3, 1] [("highway", "rest_area")] = true := by
  rw [polygon_iff_published]; decide
example : wayPolygon [1, 2, 3, 1] [("natural", "cliff")] = false := by
  rw [polygon_iff_published]; decide
-- the value lists are not sorted as they stand in the source (here `highway`'s): the sort in `init` is needed
example : ∃ c ∈ table, ¬ Sorted c.values := ⟨table[1], by decide +kernel, by decide +kernel⟩

end OsmVerif.Props.C18
