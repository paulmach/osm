import OsmVerif.Model.Json
import OsmVerif.Lemmas.Schema
import OsmVerif.Model.JsonFields
/-!
# C05 — OSM JSON is osmjson-shaped and round-trips

Theorems over the container codec plans computed from the regenerated facts (`Model.Json.mplan`,
`uplan`) and over the regenerated struct tags. Element payloads are opaque: what is proved here is what
the library itself decides — which collections go into `elements` and under which `type`, which
top-level keys are written and read, how `version` is decoded, how the dispatcher files every element.
The reflection codec (encoding/json or the installed one) is trusted; the correspondence check drives
the same plans and the real code on the same inputs.
-/
namespace OsmVerif.Props.C05
open OsmVerif.Gen.Schema OsmVerif.Model.Schema OsmVerif.Model.Json OsmVerif.Spec.OsmSchema

/-- what `OSM.MarshalJSON` writes -/
def MP : MPlan :=
  { strKeys := [("version", "o.Version", true), ("generator", "o.Generator", true), ("copyright", "o.Copyright", true),
      ("attribution", "o.Attribution", true), ("license", "o.License", true)],
    boundsKey := some "bounds",
    elems := [("o.Nodes", "node"), ("o.Ways", "way"), ("o.Relations", "relation"), ("o.Changesets", "changeset"),
      ("o.Users", "user"), ("o.Notes", "note")] }

/-- what `OSM.UnmarshalJSON` reads -/
def UP : UPlan :=
  { strKeys := [("version", "o.Version", .sprintfNonNil), ("generator", "o.Generator", .plain), ("copyright", "o.Copyright", .plain),
      ("attribution", "o.Attribution", .plain), ("license", "o.License", .plain)],
    boundsKey := some "bounds",
    cases := [("node", "o.Nodes"), ("way", "o.Ways"), ("relation", "o.Relations"), ("changeset", "o.Changesets"),
      ("note", "o.Notes"), ("user", "o.Users")] }

/-- The theorems below are stated for whatever plans the source yields (`mplan = some mp`, `uplan = some up`); each is
    proved by putting in, with these two equations, the plans it does yield, `MP` and `UP`. -/
theorem mplan_eq : mplan = some MP := by decide +kernel
theorem uplan_eq : uplan = some UP := by decide +kernel

/-- **every element carries its type** and the dispatcher files it back into the collection it came from -/
theorem elements_typed (mp : MPlan) (up : UPlan) (hm : mplan = some mp) (hu : uplan = some up) :
    ∀ e ∈ mp.elems, e.2 ≠ "" ∧ up.cases.find? (·.1 = e.2) = some (e.2, e.1) := by
  rw [mplan_eq] at hm; rw [uplan_eq] at hu
  cases hm; cases hu
  decide

/-- nothing is left out of the document: every collection of `OSM` is in `elements` or is the top-level bounds -/
theorem all_collections_written (mp : MPlan) (hm : mplan = some mp) :
    ∀ src ∈ objectsOrder, src ∈ mp.elems.map (·.1) ∨ (src = "o.Bounds" ∧ mp.boundsKey.isSome) := by
  rw [mplan_eq] at hm; cases hm
  decide

/-- what `runM` writes for one optional string field -/
def kv (k v : String) : List (String × JV) := if v = "" then [] else [(k, .str v)]

theorem runM_keys (t : Top) (c : Colls) : (runM MP t c).keys =
    kv "version" t.version ++ (kv "generator" t.generator ++ (kv "copyright" t.copyright ++
      (kv "attribution" t.attribution ++ kv "license" t.license))) := by
  -- a `filterMap` is the `flatMap` of the `Option.toList`s, over the literal list of the five keys their append;
  -- the `toList` of what is written for one key is its `kv`
  simp only [runM, MP, ← List.flatMap_toList, List.flatMap_cons, List.flatMap_nil, Top.get, kv, List.append_nil]
  simp only [true_and, apply_ite Option.toList, Option.toList_none, Option.toList_some]

theorem lookupKey_kv_append (k k' v : String) (rest : List (String × JV)) :
    lookupKey (kv k v ++ rest) k' = if v = "" then lookupKey rest k' else if k = k' then .str v else lookupKey rest k' := by
  by_cases hv : v = "" <;> by_cases hk : k = k' <;> simp [kv, lookupKey, hv, hk]

theorem lookupKey_kv (k k' v : String) :
    lookupKey (kv k v) k' = if v = "" then .absent else if k = k' then .str v else .absent := by
  simpa [lookupKey] using lookupKey_kv_append k k' v []

theorem applyRule_written (rule : StrRule) (h : rule ≠ .sprintf) (v : String) :
    applyRule rule (if v = "" then JV.absent else JV.str v) = v := by
  -- an empty `v` is not written, and an absent key is read as "" by every rule but `.sprintf`, which prints "<nil>"
  cases rule with
  | sprintf => exact absurd rfl h
  | plain => by_cases hv : v = "" <;> simp [hv, applyRule]
  | sprintfNonNil => by_cases hv : v = "" <;> simp [hv, applyRule]

/-- the top-level fields `runU UP` reads from the keys of a document -/
def topOf (keys : List (String × JV)) : Top :=
  { version := applyRule .sprintfNonNil (lookupKey keys "version"), generator := applyRule .plain (lookupKey keys "generator"),
    copyright := applyRule .plain (lookupKey keys "copyright"), attribution := applyRule .plain (lookupKey keys "attribution"),
    license := applyRule .plain (lookupKey keys "license") }

theorem runU_UP (d : Doc) :
    runU UP d = (d.elements.foldl (dispatchStep UP) (some { bounds := d.bounds })).map fun c => (topOf d.keys, c) := by
  simp [runU, UP, Top.set, topOf]

theorem topOf_runM (t : Top) (c : Colls) : topOf (runM MP t c).keys = t := by
  rw [runM_keys]
  simp [topOf, lookupKey_kv_append, lookupKey_kv, applyRule_written]

def typed (es : List (String × Nat)) (label : String) : List Nat :=
  es.filterMap fun e => if e.1 = label then some e.2 else none

theorem typed_append (a b : List (String × Nat)) (k : String) : typed (a ++ b) k = typed a k ++ typed b k :=
  List.filterMap_append

theorem typed_block (l : List Nat) (label k : String) :
    typed (l.map fun p => (label, p)) k = if label = k then l else [] := by
  by_cases h : label = k <;> simp [typed, List.filterMap_map, Function.comp_def, h]

/-- the dispatcher files every element under its type, in array order, whatever the order of the array -/
theorem dispatch_typed (es : List (String × Nat)) (h : ∀ e ∈ es, e.1 ∈ UP.cases.map (·.1)) (c : Colls) :
    es.foldl (dispatchStep UP) (some c) =
      some { c with nodes := c.nodes ++ typed es "node", ways := c.ways ++ typed es "way",
                    relations := c.relations ++ typed es "relation", changesets := c.changesets ++ typed es "changeset",
                    notes := c.notes ++ typed es "note", users := c.users ++ typed es "user" } := by
  unfold UP at h ⊢
  induction es generalizing c with
  | nil => simp [typed]
  | cons e es ih =>
    obtain ⟨label, p⟩ := e
    have hl := h _ List.mem_cons_self
    simp only [List.map_cons, List.map_nil, List.mem_cons, List.not_mem_nil, or_false] at hl
    -- the same step for each of the six labels: `push` appends to that collection
    rcases hl with rfl | rfl | rfl | rfl | rfl | rfl <;>
      simp [dispatchStep, Colls.push, ih (fun e he => h e (List.mem_cons_of_mem _ he)), typed]

/-- **container round trip**: unmarshalling what `MarshalJSON` wrote returns the same top-level fields
    (absent optional fields stay empty), the same bounds and the same elements in every collection, in order -/
theorem osm_json_roundtrip (t : Top) (c : Colls) (mp : MPlan) (up : UPlan) (hm : mplan = some mp) (hu : uplan = some up) :
    runU up (runM mp t c) = some (t, c) := by
  rw [mplan_eq] at hm; rw [uplan_eq] at hu
  cases hm; cases hu
  rw [runU_UP, topOf_runM, dispatch_typed]
  · cases c
    simp [runM, MP, Colls.get, typed_append, typed_block]
  · -- every element `runM` writes carries the label of its collection, and the dispatcher knows these labels
    intro e he
    simp only [runM, List.mem_flatMap, List.mem_map] at he
    obtain ⟨⟨src, label⟩, hsl, p, -, rfl⟩ := he
    exact List.mem_map_of_mem (f := (·.1)) (List.mem_of_find?_eq_some (elements_typed MP UP mplan_eq uplan_eq _ hsl).2)

/-- **an absent version stays empty** (it does not turn into placeholder text), and a version given as a
    string or as a number is taken as written -/
theorem version_decoding (up : UPlan) (hu : uplan = some up) :
    ∃ rule, up.strKeys.find? (·.1 = "version") = some ("version", "o.Version", rule) ∧
      applyRule rule .absent = "" ∧ (∀ s, applyRule rule (.str s) = s) ∧ (∀ s, applyRule rule (.num s) = s) := by
  rw [uplan_eq] at hu; cases hu
  exact ⟨.sprintfNonNil, by decide, rfl, fun _ => rfl, fun _ => rfl⟩

/-- absent optional top-level fields of a decoded document are empty strings -/
theorem absent_fields_stay_empty (up : UPlan) (hu : uplan = some up) (d : Doc) (hk : d.keys = []) (t : Top) (c : Colls)
    (h : runU up d = some (t, c)) : t = {} := by
  rw [uplan_eq] at hu; cases hu
  rw [runU_UP, hk, Option.map_eq_some_iff] at h
  obtain ⟨_, _, h1⟩ := h
  exact (congrArg Prod.fst h1).symm

/-- json keys of every codec struct are the osmjson keys (pinned vocabulary; the same table that fixes the XML names) -/
theorem names_eq_osmjson :
    structs.filter (fun e => codecTypes.contains e.1) = pinnedStructs.filter (fun e => codecTypes.contains e.1) :=
  schema_eq_pinned

/-- relation members are never `null`; a zero note date is `null`; tags are an object built from the tag
    map; way nodes are an array of ids — the bodies of the small marshalers are the reviewed ones -/
theorem small_marshalers_pinned :
    membersMarshalJSONBody = ["if len(ms) == 0 { return []byte(`[]`), nil }", "return marshalJSON([]Member(ms))"] ∧
    dateMarshalJSONBody = ["if d.IsZero() { return []byte(`null`), nil }", "return marshalJSON(d.Time)"] ∧
    tagsMarshalJSONBody = ["return marshalJSON(ts.Map())"] ∧
    tagsUnmarshalJSONBody = ["o := make(map[string]string)", "err := json.Unmarshal(data, &o)", "if err != nil { return err }",
      "tags := make(Tags, 0, len(o))", "for k, v := range o { tags = append(tags, Tag{Key: k, Value: v}) }", "*ts = tags", "return nil"] ∧
    tagsMapBody = ["result := make(map[string]string, len(ts))", "for _, t := range ts { result[t.Key] = t.Value }", "return result"] ∧
    wayNodesMarshalJSONBody = ["a := make([]int64, 0, len(wn))", "for _, n := range wn { a = append(a, int64(n.ID)) }", "return marshalJSON(a)"] ∧
    wayNodesUnmarshalJSONBody = ["var a []int64", "err := unmarshalJSON(data, &a)", "if err != nil { return err }",
      "nodes := make(WayNodes, len(a))", "for i, id := range a { nodes[i].ID = NodeID(id) }", "*wn = nodes", "return nil"] :=
  ⟨rfl, rfl, rfl, rfl, rfl, rfl, rfl⟩

/-- **both codec configurations**: every helper consults the installed codec when there is one and the
    standard library otherwise -/
theorem codec_routing :
    marshalJSONHelperBody = ["if CustomJSONMarshaler == nil { return json.Marshal(v) }", "return CustomJSONMarshaler.Marshal(v)"] ∧
    unmarshalJSONHelperBody = ["if CustomJSONUnmarshaler == nil { return json.Unmarshal(data, v) }", "return CustomJSONUnmarshaler.Unmarshal(data, v)"] :=
  ⟨rfl, rfl⟩

theorem jsonEmpty_zero (ty text : String) (h : jsonEmpty ty text = true) : text = zeroText ty := by
  unfold jsonEmpty at h
  unfold zeroText
  simp only at h ⊢
  generalize (namedType ty).getD ty = u at h ⊢
  -- both run the same tests on the underlying type `u`; in each branch the text tested for is the zero value
  by_cases hs : u = "string"
  · simpa [hs] using h
  by_cases hb : u = "bool"
  · simpa [hs, hb] using h
  by_cases hf : u = "float64"
  · simpa [hs, hb, hf] using h
  by_cases hp : u.toList.head? = some '*'
  · simpa [hs, hb, hf, hp] using h
  by_cases ht : u = "time.Time"
  · -- a struct is never empty
    simp [ht] at h
  · simpa [hs, hb, hf, hp, ht] using h

/-- **every record's scalar keys round-trip**: reading back what was written gives every scalar field its
    value; a key left out by `omitempty` held exactly the zero value it is read back as -/
theorem json_fields_roundtrip (t : String) (r : Rec) (hnd : (jsonKeyNames t).Nodup) :
    decodeJson t (encodeJson t r) =
      (fieldsOf t).filterMap fun f => if (jsonView f).use then some (f.name, r.get f.name) else none :=
  OsmVerif.Model.Record.roundtrip jsonView (fun f => zeroText f.type) (fieldsOf t) r hnd
    (fun f _ txt h => by
      simp only [jsonView, Bool.and_eq_true] at h
      exact jsonEmpty_zero f.type txt h.2)

/-- the keys of all fields that are not skipped, scalar or not, are distinct in every codec struct -/
theorem all_json_keys_distinct : ∀ t ∈ codecTypes,
    (((fieldsOf t).filter fun f => !(parseJsonTag f).skip).map fun f => (parseJsonTag f).name).Nodup := by
  decide +kernel

/-- no codec struct uses a JSON key twice -/
theorem codec_json_keys_distinct : ∀ t ∈ codecTypes, (jsonKeyNames t).Nodup := by
  intro t ht
  -- the scalar fields are some of the fields that are not skipped
  have hsub : List.Sublist ((fieldsOf t).filter fun f => (jsonView f).use)
      ((fieldsOf t).filter fun f => !(parseJsonTag f).skip) := by
    have huse : (fun f => (jsonView f).use) =
        fun f => (jsonScalar f.type && f.name != "XMLName") && !(parseJsonTag f).skip := by
      funext f
      simp only [jsonView, Bool.and_assoc, Bool.and_comm]
    rw [huse, ← List.filter_filter]
    exact List.filter_sublist
  exact (hsub.map fun f => (parseJsonTag f).name).nodup (all_json_keys_distinct t ht)

/-- decoding does not depend on the order of the keys of an object … -/
theorem json_decode_perm (t : String) (a1 a2 : List (String × String)) (hp : a1.Perm a2) (hn : (a1.map (·.1)).Nodup) :
    decodeJson t a1 = decodeJson t a2 :=
  OsmVerif.Model.Record.dec_perm _ _ _ a1 a2 hp hn

/-- … and ignores unknown keys -/
theorem json_decode_ignores_unknown (t : String) (kvs : List (String × String)) (k v : String) (hk : k ∉ jsonKeyNames t) :
    decodeJson t ((k, v) :: kvs) = decodeJson t kvs :=
  OsmVerif.Model.Record.dec_ignores_unknown _ _ _ kvs k v hk

/-- all that `tags_roundtrip` needs of the step of `tagsMap` is `hstep`: a pair under a new key is appended -/
theorem foldl_new_keys {step : List (String × String) → String × String → List (String × String)}
    (hstep : ∀ m kv, m.any (·.1 = kv.1) = false → step m kv = m ++ [kv])
    (m ts : List (String × String)) (h : (m ++ ts).map (·.1) |>.Nodup) : ts.foldl step m = m ++ ts := by
  induction ts generalizing m with
  | nil => simp
  | cons kv rest ih =>
    have hnew : m.any (·.1 = kv.1) = false := by
      rw [List.map_append, List.nodup_append] at h
      exact List.any_eq_false.mpr fun a ha e =>
        h.2.2 a.1 (List.mem_map_of_mem ha) kv.1 (List.mem_map_of_mem List.mem_cons_self) (of_decide_eq_true e)
    rw [List.append_cons] at h ⊢
    rw [List.foldl_cons, hstep m kv hnew]
    exact ih _ h

/-- **tags round-trip up to order**: with distinct keys the tag map holds exactly the tags (the object's
    key order is the codec's, hence "up to order") -/
theorem tags_roundtrip (ts : List (String × String)) (h : (ts.map (·.1)).Nodup) : (tagsMap ts).Perm ts :=
  .of_eq (foldl_new_keys (fun _ _ hnew => if_neg (hnew ▸ Bool.false_ne_true)) [] ts h)

/-- **tags round-trip up to order, decode included**: `Tags.UnmarshalJSON` (pinned above) appends one tag per
    entry of the decoded object while ranging over a Go map, i.e. in some order `out` of the object's entries;
    whatever that order, with distinct keys the decoded tags are the written tags up to order -/
theorem tags_decode_roundtrip (ts out : List (String × String)) (h : (ts.map (·.1)).Nodup)
    (hout : out.Perm (tagsMap ts)) : out.Perm ts :=
  hout.trans (tags_roundtrip ts h)

/-- **way nodes**: the ids come back in order; versions, changesets and locations are what osmjson has no place for -/
theorem waynodes_roundtrip (ns : List WayNode) :
    wayNodesOfJSON (wayNodesJSON ns) = ns.map (fun n => { id := n.id }) := by
  simp [wayNodesOfJSON, wayNodesJSON]

example : runM MP { version := "0.6" } { bounds := some 9, nodes := [1, 2], users := [5] } =
    { keys := [("version", .str "0.6")], bounds := some 9, elements := [("node", 1), ("node", 2), ("user", 5)] } := by decide
example : runU UP { keys := [("generator", .str "g")], elements := [("way", 3), ("node", 1), ("way", 4)] } =
    some ({ generator := "g" }, { nodes := [1], ways := [3, 4] }) := by decide
example : runU UP { elements := [("", 3)] } = none := by decide
example : runU UP { elements := [("bounds", 3)] } = none := by decide
example : tagsMap [("a", "1"), ("b", "2"), ("a", "3")] = [("a", "3"), ("b", "2")] := by decide
example : encodeJson "Node" [("ID", "7"), ("Lat", "1.5"), ("Lon", "0"), ("User", ""), ("UserID", "0"), ("Visible", "true"), ("Version", "0"),
    ("ChangesetID", "0"), ("Timestamp", "0001-01-01T00:00:00Z"), ("Committed", "")] =
    [("id", "7"), ("lat", "1.5"), ("lon", "0"), ("visible", "true"), ("timestamp", "0001-01-01T00:00:00Z")] := by decide +kernel

end OsmVerif.Props.C05
