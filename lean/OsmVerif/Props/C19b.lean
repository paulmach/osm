import OsmVerif.Props.C19
/-!
# C19 (continued) — the ascent of `findBound` terminates; the fuel of the model is never the reason for its answer

`findBound` in the model carries a fuel argument and `search` starts it with `cur² + cur + 2`. Here: every
iteration that continues lowers the potential `upper² + (upper - lowerID)` (the ascent moves `lowerID` up below an
unchanged `upper`, or restarts below a strictly smaller `upper`), so with any fuel above the potential the result
is the same — the real loop, which has no fuel, ends after at most `cur² + cur` iterations with exactly the
model's answer.
-/
namespace OsmVerif.Props.C19
open OsmVerif.Model.Search

def phi (l u : Nat) : Nat := u * u + (u - l)

theorem boundStep_phi (av : Avail) (t : Int) (l u l' u' : Nat) (h : boundStep av t l u = .next l' u') :
    phi l' u' < phi l u := by
  unfold phi
  revert l' u'
  fun_cases boundStep av t l u with
  | case1 => intro l' u' h; cases h
  | case2 => intro l' u' h; cases h
  | case3 ts hav hlate hadj newID hsmall =>
    -- restart below the new upper bound `l < u`: `l² + l < u²`
    intro l' u' h
    cases h
    have h2 : (l + 1) * (l + 1) ≤ u * u := Nat.mul_le_mul (by omega) (by omega)
    have h3 : (l + 1) * (l + 1) = l * l + l + l + 1 := Nat.succ_mul_succ l l
    omega
  | case4 => intro l' u' h; cases h
  | case5 => intro l' u' h; cases h
  | case6 hav newID hclimb =>
    -- climb towards an unchanged `u`
    intro l' u' h
    cases h
    omega

/-- **the fuel is never the reason**: with any two amounts of fuel above the potential the ascent gives the same
    bounds -/
theorem findBound_fuel_stable (av : Avail) (t : Int) :
    ∀ (n l u : Nat), phi l u < n → ∀ f, n ≤ f → findBound av t f l u = findBound av t n l u := by
  intro n
  induction n with
  | zero => intro l u h; omega
  | succ n ih =>
    intro l u hphi f hf
    obtain ⟨f', rfl⟩ : ∃ f', f = f' + 1 := ⟨f - 1, by omega⟩
    unfold findBound
    cases hb : boundStep av t l u with
    | done lo hi => rfl
    | next l' u' =>
      simp only
      have := boundStep_phi av t l u l' u' hb
      exact ih l' u' (by omega) f' (by omega)

/-- `search` gives `findBound` more fuel than it can use: the lookup's answer is the unbounded loop's answer -/
theorem search_fuel_sufficient (av : Avail) (t : Int) (cur k : Nat) :
    findBound av t (cur * cur + cur + 2 + k) 1 cur = findBound av t (cur * cur + cur + 2) 1 cur :=
  findBound_fuel_stable av t (cur * cur + cur + 2) 1 cur (by unfold phi; omega) _ (by omega)

theorem findInRangeL_fuel_stable (av : Avail) (t : Int) (n lo hi : Nat) (hn : hi - lo ≤ n) (k : Nat) :
    findInRangeL av t (n + k) lo hi = findInRangeL av t n lo hi := by
  induction n, lo, hi using findInRangeL_induct (av := av) (t := t) with
  | stop n lo hi hstop heq => rw [heq]; exact findInRangeL_stop (.inr (by omega))
  | empty n lo hi l _ _ _ heq => rw [Nat.add_right_comm, heq, heq]
  | upper n lo hi s ts l hs _ heq ih => rw [Nat.add_right_comm, heq, heq, ih (by have := hs.lo_lt; omega)]
  | lower n lo hi s ts l hs _ heq ih => rw [Nat.add_right_comm, heq, heq, ih (by have := hs.lt_hi; omega)]

/-- the binary search between the bounds: every iteration that continues narrows `hi - lo`, so fuel `hi - lo`
    (what `search` passes) is never exhausted: more fuel gives the same answer, for every availability pattern -/
theorem findInRange_fuel_stable (av : Avail) (t : Int) :
    ∀ (n lo hi : Nat), hi - lo ≤ n → ∀ f, n ≤ f → findInRange av t f lo hi = findInRange av t n lo hi := by
  intro n lo hi hn f hf
  obtain ⟨k, rfl⟩ := Nat.exists_eq_add_of_le hf
  rw [← findInRangeL_fst, ← findInRangeL_fst, findInRangeL_fuel_stable av t n lo hi hn k]

end OsmVerif.Props.C19
