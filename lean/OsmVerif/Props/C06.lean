import OsmVerif.Model.PbfFraming
import OsmVerif.Props.C01
import OsmVerif.Lemmas.Pbf
/-!
# C06 — truncated or damaged input ends in an error after a correct prefix

Cut streams: the framing reader on a stream that ends early (`Model.PbfFraming`), with the EOF handling of the three
readers read from the source, agrees with `expectedCut` at every cut offset. Damage: every detectable damage class of
the property has its check in the source (`damage_checks_present`); the checks' effect on real damaged streams is what
the correspondence runs, each case in an isolated child process.
-/
namespace OsmVerif.Props.C06
open OsmVerif.Gen.Pbf OsmVerif.Model.PbfFraming OsmVerif.Model.PbfScan OsmVerif.Model.Pbf

/-- only the read of the 4-byte length prefix may meet the end of input; the blob header and the blob reader
    turn it into an error -/
theorem conv_eq : conv = specConv := by decide +kernel

variable {α : Type}

/-- what the property asks of a stream of frames cut to `k` bytes: the objects of the frames that are there in
    full, and success exactly when the cut falls where a frame ends -/
def expectedCut : Nat → List (Frame α) → List α × Bool
  | _, [] => ([], true)
  | k, f :: rest =>
    if f.size ≤ k then let r := expectedCut (k - f.size) rest; (f.objs ++ r.1, r.2)
    else ([], k = 0)

theorem readFull_eq (avail want : Nat) :
    readFull avail want = if want ≤ avail then .ok else if avail = 0 then .eof else .short := by
  unfold readFull
  by_cases h : want = 0
  · simp [h]
  · by_cases a : avail = 0
    · simp [h, a]
    · by_cases l : avail < want
      · simp [h, a, l, Nat.not_le.2 l]
      · simp [h, a, l, Nat.le_of_not_lt l]

theorem readFrame_specConv (avail hlen blen : Nat) :
    readFrame specConv avail hlen blen =
      if 4 + hlen + blen ≤ avail then .full else if avail = 0 then .cleanEnd else .error := by
  simp only [readFrame, readFull_eq, specConv, if_true]
  by_cases h4 : 4 ≤ avail
  · by_cases hh : hlen ≤ avail - 4
    · by_cases hb : blen ≤ avail - 4 - hlen
      · have : 4 + hlen + blen ≤ avail := by omega
        simp only [h4, hh, hb, this, if_true]
      · have h1 : ¬ 4 + hlen + blen ≤ avail := by omega
        have h2 : avail ≠ 0 := by omega
        simp only [h4, hh, hb, h1, h2, if_true, if_false]
        by_cases z : avail - 4 - hlen = 0 <;> simp only [z, if_true, if_false]
    · have h1 : ¬ 4 + hlen + blen ≤ avail := by omega
      have h2 : avail ≠ 0 := by omega
      simp only [h4, hh, h1, h2, if_true, if_false]
      by_cases z : avail - 4 = 0 <;> simp only [z, if_true, if_false]
  · have h1 : ¬ 4 + hlen + blen ≤ avail := by omega
    simp only [h4, h1, if_false]
    by_cases z : avail = 0 <;> simp only [z, if_true, if_false]

/-- that the BlobHeader is not empty is not needed, here or in `scanCut_spec` and `cut_stream` -/
theorem readFrame_spec (avail hlen blen : Nat) (hh : 0 < hlen) :
    readFrame specConv avail hlen blen =
      if 4 + hlen + blen ≤ avail then .full else if avail = 0 then .cleanEnd else .error :=
  readFrame_specConv avail hlen blen

theorem scanCut_specConv (k : Nat) (frames : List (Frame α)) : scanCut specConv k frames = expectedCut k frames := by
  induction frames generalizing k with
  | nil => rfl
  | cons f rest ih =>
    rw [scanCut, expectedCut, readFrame_specConv]
    by_cases c : f.size ≤ k
    · have c' : 4 + f.hlen + f.blen ≤ k := c
      simp only [c', c, if_true]
      rw [ih]
    · have c' : ¬ 4 + f.hlen + f.blen ≤ k := c
      simp only [c', c, if_false]
      by_cases z : k = 0 <;> simp [z]

theorem scanCut_spec (k : Nat) (frames : List (Frame α)) (hh : ∀ f ∈ frames, 0 < f.hlen) :
    scanCut specConv k frames = expectedCut k frames :=
  scanCut_specConv k frames

/-- **every cut offset of every stream** (as the code handles end of input): the objects of the complete
    blocks before the cut, success only on a block boundary -/
theorem cut_stream (k : Nat) (frames : List (Frame α)) (hh : ∀ f ∈ frames, 0 < f.hlen) :
    scanCut conv k frames = expectedCut k frames := by
  rw [conv_eq]
  exact scanCut_specConv k frames

def infixOf (sub : List Char) : List Char → Bool
  | [] => sub.isEmpty
  | c :: cs => sub.isPrefixOf (c :: cs) || infixOf sub cs

def containsSub (sub s : String) : Bool := infixOf sub.toList s.toList

/-- the then-branch of `if cond {` in a function body ends by returning an error -/
def rejects (body : List String) (cond : String) : Bool :=
  match ifBranches body ("if " ++ cond ++ " {") with
  | some (t, _) =>
    match t.getLast? with
    | some l => hasPrefix "return " l && (containsSub "errors.New(" l || containsSub "fmt.Errorf(" l || hasSuffix "err" l)
    | none => false
  | none => false

/-- the limits and vocabulary the damage checks compare with are the format's: header at most 64 KiB, blob at
    most 32 MiB (the PBF specification's hard limits), block types `OSMHeader` / `OSMData`, and exactly the three
    required features this decoder implements -/
theorem limits_pinned :
    pbfConsts = ["maxBlobHeaderSize=64 * 1024", "maxBlobSize=32 * 1024 * 1024",
      "parseCapabilities=map[string]bool{ \"OsmSchema-V0.6\": true, \"DenseNodes\": true, \"HistoricalInformation\": true, }",
      "osmHeaderType=\"OSMHeader\"", "osmDataType=\"OSMData\""] := rfl

/-- oversized and negative block sizes, unknown blob encoding, wrong or out-of-range uncompressed size (checked before
    anything is allocated; inflation is cut one byte past the declared size), unexpected block type
    (first block and later blocks), unsupported required feature, plain node groups: each has its rejecting
    check; a reference out of range inside a block is recovered into an error by `Decode`; the mandatory dense
    columns are rejected by `scanDenseNodes` (`Props.C01.T.postChecks`). The type check of a later block stands in
    the reader goroutine, which has no error to return: its branch assigns `err` (sent down the pipeline in place of
    the block, and the loop ends), so `rejects` is `false` for it and the assignment is asserted beside it. -/
theorem damage_checks_present :
    rejects readBlobHeaderSizeBody "size >= maxBlobHeaderSize" = true ∧
    rejects readBlobHeaderBody "blobHeader.GetDatasize() < 0" = true ∧
    rejects readBlobHeaderBody "blobHeader.GetDatasize() >= maxBlobSize" = true ∧
    rejects getDataBody "buf.Len() != int(blob.GetRawSize())" = true ∧
    rejects getDataBody "rawSize < 0 || rawSize >= maxBlobSize" = true ∧
    getDataBody.contains "rawSize := int(blob.GetRawSize())" = true ∧
    rejects getDataBody "_, err = buf.ReadFrom(io.LimitReader(r, int64(rawSize)+1)); err != nil" = true ∧
    getDataBody.contains "default:" = true ∧ getDataBody.getLast? = some "}" ∧
    (getDataBody.dropWhile (· ≠ "default:")).take 2 = ["default:", "return nil, errors.New(\"unknown blob data\")"] ∧
    rejects startBody "blobHeader.GetType() != osmDataType" = true ∧
    rejects startBody "err == nil && blobHeader.GetType() != osmDataType" = false ∧
    startBody.contains "err = fmt.Errorf(\"unexpected fileblock of type %s\", blobHeader.GetType())" = true ∧
    rejects decodeOSMHeaderBody "!parseCapabilities[feature]" = true ∧
    rejects scanPrimitiveGroupBody "fn == 1" = true ∧
    decodeBody.take 2 = ["defer func() {", "if r := recover(); r != nil {"] ∧
    decodeBody.contains "objects, err = nil, fmt.Errorf(\"osmpbf: invalid primitive block: %v\", re)" = true ∧
    (OsmVerif.Props.C01.T.postChecks.filter (·.isError)).length = 3 := by
  -- `hasPrefix` is left as it is (cf. `hasPrefix_eq_startsWith`): `rejects` applies it to one line of each branch, and
  -- `containsSub` goes through the characters of that line anyway
  decide +kernel

/-! ## the specification side of the damage classes -/

theorem str_out_of_range (st : List String) (i : Int) (h : (st.length : Int) ≤ i) : str st i = none := by
  unfold str
  have : ¬ i < 0 := by omega
  simp only [this, if_false]
  apply List.getElem?_eq_none
  omega

/-- **the format lets a reader detect it — dense columns**: a dense group whose lat or lon column does not have one
    entry per id has no meaning -/
theorem dense_column_mismatch (gran dg la lo : Int) (st : List String) (d : Dense)
    (h : d.lat.length ≠ d.ids.length ∨ d.lon.length ≠ d.ids.length) : decodeDense gran dg la lo st d = none := by
  unfold decodeDense
  simp [h]

/-- … an info column with fewer entries than ids -/
theorem dense_short_version_column (gran dg la lo : Int) (st : List String) (d : Dense) (col : List Int)
    (hi : d.hasInfo = true) (hv : d.ver = some col) (hl : col.length < d.ids.length) : decodeDense gran dg la lo st d = none := by
  cases h : decodeDense gran dg la lo st d with
  | none => rfl
  | some ns =>
    -- a decoded group would have a node number `col.length`, built from an entry the version column does not have
    obtain ⟨hlen, hnode⟩ := decodeDense_getElem h
    obtain ⟨v, _, _, _, _, _, _, hver, _⟩ := hnode col.length (by omega)
    simp [hi, hv, getCol] at hver

/-- … a user string reference beyond the string table -/
theorem way_user_out_of_range (gran dg la lo : Int) (st : List String) (w : WayMsg) (i : Info) (s : Int)
    (hi : w.info = some i) (hs : i.sid = some s) (h : (st.length : Int) ≤ s) : decodeWay gran dg la lo st w = none := by
  unfold decodeWay
  have : decodeInfo dg st w.info = none := by simp [decodeInfo, hi, hs, str_out_of_range st s h]
  simp [this]

/-- … a tag key reference beyond the string table -/
theorem tags_key_out_of_range (st : List String) (ks vs : List Int) (j : Nat) (hj : j < ks.length) (hl : ks.length = vs.length)
    (h : (st.length : Int) ≤ ks[j]) : decodeTags st (some ks) (some vs) = none := by
  simp only [decodeTags, hl, ne_eq, not_true_eq_false, if_false]
  have hjz : j < (ks.zip vs).length := by
    rw [List.length_zip]
    omega
  refine mapM_none_of_mem (List.getElem_mem hjz) ?_
  rw [List.getElem_zip]
  simp [str_out_of_range st ks[j] h]

/-- … relation member columns of different lengths -/
theorem rel_column_mismatch (dg : Int) (st : List String) (r : RelMsg)
    (h : (r.roles.getD []).length ≠ (r.memids.getD []).length ∨ (r.types.getD []).length ≠ (r.memids.getD []).length) :
    decodeRel dg st r = none := by
  unfold decodeRel
  simp [undelta_length, h]

/-- a block with a malformed group has no meaning, and a file with such a block has none past it (the scan
    delivers the blocks before it, `Oracle.decodePrefix`) -/
theorem block_with_bad_group (b : Block) (g : Group) (hg : g ∈ b.groups)
    (h : decodeGroup (b.gran.getD 100) (b.dateGran.getD 1000) (b.latOff.getD 0) (b.lonOff.getD 0) b.strings g = none) :
    decodeBlock b = none := by
  unfold decodeBlock
  rw [mapM_none_of_mem hg h]
  rfl

example : scanCut specConv 40 [⟨10, 20, [1, 2]⟩, ⟨5, 8, [3]⟩] = ([1, 2], false) := by decide
example : scanCut specConv 34 [⟨10, 20, [1, 2]⟩, ⟨5, 8, [3]⟩] = ([1, 2], true) := by decide
example : scanCut specConv 38 [⟨10, 20, [1, 2]⟩, ⟨5, 8, [3]⟩] = ([1, 2], false) := by decide   -- right after the length prefix
example : scanCut { specConv with headerEOFisError := false } 38 [⟨10, 20, [1, 2]⟩, ⟨5, 8, [3]⟩] = ([1, 2], true) := by decide

end OsmVerif.Props.C06
