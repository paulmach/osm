import OsmVerif.Gen.Ids
import OsmVerif.Lemmas.Bits
/-!
# C10 — packed object / element / feature ids are lossless, ordered and parseable

Theorems about the *regenerated* translation `OsmVerif.Gen.Ids` of the bit-layout
code of feature.go, object.go, element.go, node.go, way.go, relation.go,
changeset.go, note.go, user.go, bounds.go. References and versions are `BitVec 64`
(Go `int64` / `int`), ranges are hypotheses `r.toNat < 2^40`, `v.toNat < 2^16`.
-/
namespace OsmVerif.Props.C10
open OsmVerif.Gen.Ids OsmVerif.Bits

theorem versionBits_eq : versionBits_n = 16 := rfl

theorem and_versionMask_toNat (x : BitVec 64) : (x &&& versionMask).toNat = x.toNat % 2^16 := by
  rw [BitVec.toNat_and]
  exact Nat.and_two_pow_sub_one_eq_mod x.toNat 16
theorem and_refMask_toNat (x : BitVec 64) : (x &&& refMask).toNat = x.toNat / 2^16 % 2^40 * 2^16 :=
  toNat_and_field x refMask 16 40 rfl
theorem and_featureMask_toNat (x : BitVec 64) : (x &&& featureMask).toNat = x.toNat / 2^16 % 2^47 * 2^16 :=
  toNat_and_field x featureMask 16 47 rfl
theorem and_typeMask_toNat (x : BitVec 64) : (x &&& typeMask).toNat = x.toNat / 2^56 % 2^7 * 2^56 :=
  toNat_and_field x typeMask 56 7 rfl

/-- Go's `>>` on the signed `(id & refMask)` is a logical shift: bit 63 of the mask is clear. -/
theorem ref_toNat (x : BitVec 64) :
    (BitVec.sshiftRight (x &&& refMask) versionBits_n).toNat = x.toNat / 2^16 % 2^40 := by
  have h := and_refMask_toNat x
  have hm : (x &&& refMask).msb = false := BitVec.msb_eq_false_iff_two_mul_lt.mpr (by omega)
  rw [BitVec.sshiftRight_eq_of_msb_false hm, versionBits_eq, BitVec.toNat_ushiftRight, Nat.shiftRight_eq_div_pow, h]
  omega

inductive Kind | bounds | node | way | relation | changeset | note | user
  deriving DecidableEq, Repr

def Kind.name : Kind → String
  | .bounds => TypeBounds | .node => TypeNode | .way => TypeWay | .relation => TypeRelation
  | .changeset => TypeChangeset | .note => TypeNote | .user => TypeUser

def Kind.mask : Kind → BitVec 64
  | .bounds => boundsMask | .node => nodeMask | .way => wayMask | .relation => relationMask
  | .changeset => changesetMask | .note => noteMask | .user => userMask

def Kind.rank : Kind → Nat
  | .bounds => 0 | .node => 1 | .way => 2 | .relation => 3 | .changeset => 4 | .note => 5 | .user => 6

def Kind.isElement : Kind → Bool
  | .node | .way | .relation => true
  | _ => false

theorem names_distinct : ∀ k k' : Kind, k.name = k'.name → k = k' := by
  intro k k'; cases k <;> cases k' <;> decide

/-- Every kind mask lives in the type field (bits 56..62) only. -/
theorem kind_mask_field (k : Kind) : 2^56 ∣ k.mask.toNat ∧ k.mask.toNat < 2^63 := by
  cases k <;> decide
theorem kind_mask_order : ∀ k k' : Kind, k.mask.toNat < k'.mask.toNat ↔ k.rank < k'.rank := by
  intro k k'; cases k <;> cases k' <;> decide

/-- The generic packed layout: kind in the 7 bit type field, 40 bit reference, 16 bit version. -/
def layout (k : Kind) (r v : BitVec 64) : BitVec 64 := (k.mask ||| (r <<< 16)) ||| (versionMask &&& v)

theorem node_element (r v) : NodeID_ElementID r v = layout .node r v := rfl
theorem way_element (r v) : WayID_ElementID r v = layout .way r v := rfl
theorem relation_element (r v) : RelationID_ElementID r v = layout .relation r v := rfl
theorem node_object (r v) : NodeID_ObjectID r v = layout .node r v := rfl
theorem way_object (r v) : WayID_ObjectID r v = layout .way r v := rfl
theorem relation_object (r v) : RelationID_ObjectID r v = layout .relation r v := rfl

theorem layout_zero_version (k r) : layout k r 0#64 = k.mask ||| (r <<< 16) := by
  simp [layout]

theorem node_feature (r) : NodeID_FeatureID r = layout .node r 0#64 := by rw [layout_zero_version]; rfl
theorem way_feature (r) : WayID_FeatureID r = layout .way r 0#64 := by rw [layout_zero_version]; rfl
theorem relation_feature (r) : RelationID_FeatureID r = layout .relation r 0#64 := by rw [layout_zero_version]; rfl
theorem changeset_object (r) : ChangesetID_ObjectID r = layout .changeset r 0#64 := by rw [layout_zero_version]; rfl
theorem note_object (r) : NoteID_ObjectID r = layout .note r 0#64 := by rw [layout_zero_version]; rfl
theorem user_object (r) : UserID_ObjectID r = layout .user r 0#64 := by rw [layout_zero_version]; rfl
theorem bounds_object : Bounds_ObjectID () = layout .bounds 0#64 0#64 := by
  rw [layout_zero_version]; simp [Bounds_ObjectID, Kind.mask]

/-- `Type.objectID` (used by `ParseObjectID`) and `Type.FeatureID` dispatch on the kind's name. -/
theorem type_objectID (k : Kind) (r v) :
    Type_objectID k.name r v =
      some (if k.isElement then layout k r v else if k = .bounds then layout k 0#64 0#64 else layout k r 0#64) := by
  -- the seven names are distinct literals (`names_distinct`), so for each `k` the chain of string tests in
  -- `Type_objectID` fails up to `k`'s own branch; there the generated constructor is a `layout` (`*_object`)
  cases k <;> simp [Type_objectID, Kind.name, Kind.isElement, node_object, way_object, relation_object,
    changeset_object, note_object, user_object, bounds_object,
    TypeNode, TypeWay, TypeRelation, TypeChangeset, TypeNote, TypeUser, TypeBounds]

theorem type_objectID_unknown (s : String) (r v) (h : ∀ k : Kind, s ≠ k.name) :
    Type_objectID s r v = none := by
  have h1 := h .node; have h2 := h .way; have h3 := h .relation; have h4 := h .changeset
  have h5 := h .note; have h6 := h .user; have h7 := h .bounds
  simp only [Kind.name] at h1 h2 h3 h4 h5 h6 h7
  simp [Type_objectID, h1, h2, h3, h4, h5, h6, h7]

theorem type_featureID (k : Kind) (r) :
    Type_FeatureID k.name r = if k.isElement then some (layout k r 0#64) else none := by
  -- as in `type_objectID`; a non-element falls through to `none`
  cases k <;> simp [Type_FeatureID, Kind.name, Kind.isElement, node_feature, way_feature, relation_feature,
    TypeNode, TypeWay, TypeRelation, TypeChangeset, TypeNote, TypeUser, TypeBounds]

theorem type_featureID_unknown (s : String) (r) (h : ∀ k : Kind, k.isElement → s ≠ k.name) :
    Type_FeatureID s r = none := by
  have h1 := h .node rfl; have h2 := h .way rfl; have h3 := h .relation rfl
  simp only [Kind.name] at h1 h2 h3
  simp [Type_FeatureID, h1, h2, h3]

theorem layout_toNat (k r v) (hr : r.toNat < 2^40) :
    (layout k r v).toNat = k.mask.toNat + r.toNat * 2^16 + v.toNat % 2^16 := by
  have hk := (kind_mask_field k).1
  have hs : r.toNat <<< 16 % 2^64 = r.toNat * 2^16 := by rw [Nat.shiftLeft_eq]; omega
  -- each `|||` writes below a multiple of 2^56, then of 2^16, so it is an addition
  rw [layout, BitVec.toNat_or, BitVec.toNat_or, BitVec.toNat_shiftLeft, hs, BitVec.and_comm, and_versionMask_toNat,
    or_eq_add 56 hk (by omega), or_eq_add 16 (by omega) (by omega)]

theorem layout_and_typeMask (k r v) (hr : r.toNat < 2^40) : layout k r v &&& typeMask = k.mask := by
  have hk := kind_mask_field k
  apply BitVec.eq_of_toNat_eq
  rw [and_typeMask_toNat, layout_toNat k r v hr]
  omega

/-- not through `layout_toNat`, which needs `r` in range: here `r <<< 16` may overflow, and all that matters is that
    its low 16 bits, like those of the kind mask, are zero -/
theorem layout_version (k r v) (hv : v.toNat < 2^16) : layout k r v &&& versionMask = v := by
  have hk := (kind_mask_field k).1
  have h1 : k.mask.toNat % 2^16 = 0 := by omega
  have h2 : r.toNat <<< 16 % 2^64 % 2^16 = 0 := by rw [Nat.shiftLeft_eq]; omega
  apply BitVec.eq_of_toNat_eq
  rw [and_versionMask_toNat, layout, BitVec.toNat_or, BitVec.toNat_or, Nat.or_mod_two_pow, Nat.or_mod_two_pow,
    BitVec.toNat_shiftLeft, h1, h2, BitVec.and_comm, and_versionMask_toNat]
  simp only [Nat.zero_or]
  omega

theorem layout_ref (k r v) (hr : r.toNat < 2^40) :
    BitVec.sshiftRight (layout k r v &&& refMask) versionBits_n = r := by
  have hk := kind_mask_field k
  apply BitVec.eq_of_toNat_eq
  rw [ref_toNat, layout_toNat k r v hr]
  omega

/-! ## C10 part 1: decode ∘ encode = id (type, ref, version), for all three id types -/

theorem element_type (k : Kind) (hk : k.isElement) (r v) (hr : r.toNat < 2^40) :
    ElementID_Type (layout k r v) = some k.name := by
  unfold ElementID_Type
  rw [layout_and_typeMask k r v hr]
  match k, hk with
  | .node, _ | .way, _ | .relation, _ => decide

theorem object_type (k : Kind) (r v) (hr : r.toNat < 2^40) :
    ObjectID_Type (layout k r v) = some k.name := by
  unfold ObjectID_Type
  rw [layout_and_typeMask k r v hr]
  cases k <;> decide

theorem feature_type (k : Kind) (hk : k.isElement) (r) (hr : r.toNat < 2^40) :
    FeatureID_Type (layout k r 0#64) = k.name := by
  unfold FeatureID_Type
  rw [layout_and_typeMask k r _ hr]
  match k, hk with
  | .node, _ | .way, _ | .relation, _ => decide

theorem element_ref (k r v) (hr : r.toNat < 2^40) : ElementID_Ref (layout k r v) = r := layout_ref k r v hr
theorem object_ref (k r v) (hr : r.toNat < 2^40) : ObjectID_Ref (layout k r v) = r := layout_ref k r v hr
theorem feature_ref (k r v) (hr : r.toNat < 2^40) : FeatureID_Ref (layout k r v) = r := layout_ref k r v hr
theorem element_version (k r v) (hv : v.toNat < 2^16) : ElementID_Version (layout k r v) = v := layout_version k r v hv
theorem object_version (k r v) (hv : v.toNat < 2^16) : ObjectID_Version (layout k r v) = v := layout_version k r v hv

theorem element_to_feature (k r v) (hr : r.toNat < 2^40) :
    ElementID_FeatureID (layout k r v) = layout k r 0#64 := by
  have hk := kind_mask_field k
  apply BitVec.eq_of_toNat_eq
  rw [ElementID_FeatureID, and_featureMask_toNat, layout_toNat k r v hr, layout_toNat k r 0#64 hr]
  simp only [BitVec.toNat_ofNat]
  omega
theorem element_to_object (x) : ElementID_ObjectID x = x := rfl
/-- `FeatureID.ElementID(v)` masks `v` itself, as `layout` does: no range is needed -/
theorem feature_with_version (k r v) : FeatureID_ElementID (layout k r 0#64) v = layout k r v := by
  simp [FeatureID_ElementID, layout]
theorem feature_to_element (k r v) (hv : v.toNat < 2^16) :
    FeatureID_ElementID (layout k r 0#64) v = layout k r v := feature_with_version k r v
theorem feature_to_object (k r v) (hv : v.toNat < 2^16) :
    FeatureID_ObjectID (layout k r 0#64) v = layout k r v := feature_to_element k r v hv

theorem and_kind_mask (k : Kind) (r v) (hr : r.toNat < 2^40) :
    layout k r v &&& k.mask = k.mask := by
  rw [← layout_and_typeMask k r v hr, ← BitVec.and_assoc, BitVec.and_self]

/-- `FeatureID.NodeID`, `ElementID.WayID` and the like: the kind test passes and the reference comes back. -/
theorem ref_of_kind (k : Kind) (r v) (hr : r.toNat < 2^40) :
    (if layout k r v &&& k.mask ≠ k.mask then none
      else some (BitVec.sshiftRight (layout k r v &&& refMask) versionBits_n)) = some r := by
  rw [and_kind_mask k r v hr, layout_ref k r v hr]
  simp

theorem feature_nodeID (r v) (hr : r.toNat < 2^40) : FeatureID_NodeID (layout .node r v) = some r :=
  ref_of_kind .node r v hr
theorem feature_wayID (r v) (hr : r.toNat < 2^40) : FeatureID_WayID (layout .way r v) = some r :=
  ref_of_kind .way r v hr
theorem feature_relationID (r v) (hr : r.toNat < 2^40) : FeatureID_RelationID (layout .relation r v) = some r :=
  ref_of_kind .relation r v hr
theorem element_nodeID (r v) (hr : r.toNat < 2^40) : ElementID_NodeID (layout .node r v) = some r :=
  ref_of_kind .node r v hr
theorem element_wayID (r v) (hr : r.toNat < 2^40) : ElementID_WayID (layout .way r v) = some r :=
  ref_of_kind .way r v hr
theorem element_relationID (r v) (hr : r.toNat < 2^40) : ElementID_RelationID (layout .relation r v) = some r :=
  ref_of_kind .relation r v hr

/-! ## C10 part 2: distinct inputs give distinct identifiers -/

theorem pack_injective (k k' : Kind) (r r' v v' : BitVec 64)
    (hr : r.toNat < 2^40) (hr' : r'.toNat < 2^40) (hv : v.toNat < 2^16) (hv' : v'.toNat < 2^16)
    (h : layout k r v = layout k' r' v') : k = k' ∧ r = r' ∧ v = v' := by
  refine ⟨?_, ?_, ?_⟩
  · apply names_distinct
    apply Option.some.inj
    rw [← object_type k r v hr, ← object_type k' r' v' hr', h]
  · rw [← layout_ref k r v hr, ← layout_ref k' r' v' hr', h]
  · rw [← layout_version k r v hv, ← layout_version k' r' v' hv', h]

/-! ## C10 part 3: integer order = (kind, ref, version) order -/

theorem layout_toInt (k r v) (hr : r.toNat < 2^40) (hv : v.toNat < 2^16) :
    (layout k r v).toInt = ((k.mask.toNat + r.toNat * 2^16 + v.toNat : Nat) : Int) := by
  have hk := kind_mask_field k
  have h := layout_toNat k r v hr
  rw [BitVec.toInt_eq_toNat_of_lt (by omega), h, Nat.mod_eq_of_lt hv]

def lexLt (k : Kind) (r v : Nat) (k' : Kind) (r' v' : Nat) : Prop :=
  k.rank < k'.rank ∨ (k.rank = k'.rank ∧ (r < r' ∨ (r = r' ∧ v < v')))

/-- Go's `<` on the int64-based ids is signed comparison. -/
theorem pack_lt_iff (k k' : Kind) (r r' v v' : BitVec 64)
    (hr : r.toNat < 2^40) (hr' : r'.toNat < 2^40) (hv : v.toNat < 2^16) (hv' : v'.toNat < 2^16) :
    (layout k r v).toInt < (layout k' r' v').toInt ↔ lexLt k r.toNat v.toNat k' r'.toNat v'.toNat := by
  rw [layout_toInt k r v hr hv, layout_toInt k' r' v' hr' hv', Int.ofNat_lt]
  have hk := kind_mask_field k
  have hk' := kind_mask_field k'
  have ho := kind_mask_order k k'
  have ho' := kind_mask_order k' k
  unfold lexLt
  omega

/-- the comparison functions of the provided sorts, as they stand in the source: element and id lists compare the
    packed identifier with `<`; the per-kind lists compare id, then version -/
theorem sort_less_functions :
    less_elementsSort = ["return es[i].ElementID() < es[j].ElementID()"] ∧
    less_elementIDsSort = ["return ids[i] < ids[j]"] ∧ less_featureIDsSort = ["return ids[i] < ids[j]"] ∧
    less_nodesSort = ["if ns[i].ID == ns[j].ID {", "return ns[i].Version < ns[j].Version", "}", "return ns[i].ID < ns[j].ID"] ∧
    less_waysSort = ["if ws[i].ID == ws[j].ID {", "return ws[i].Version < ws[j].Version", "}", "return ws[i].ID < ws[j].ID"] ∧
    less_relationsSort = ["if rs[i].ID == rs[j].ID {", "return rs[i].Version < rs[j].Version", "}", "return rs[i].ID < rs[j].ID"] :=
  ⟨rfl, rfl, rfl, rfl, rfl, rfl⟩

/-- A list sorted by the integer value (what `Elements.Sort`, `ElementIDs.Sort`, `FeatureIDs.Sort`
    establish through `sort.Sort` with `Less = <`) is sorted by (type, id, version). -/
theorem int_sorted_is_type_id_version_sorted
    (l : List (Kind × BitVec 64 × BitVec 64))
    (hb : ∀ x ∈ l, x.2.1.toNat < 2^40 ∧ x.2.2.toNat < 2^16)
    (hs : (l.map fun x => (layout x.1 x.2.1 x.2.2).toInt).Pairwise (· ≤ ·)) :
    l.Pairwise (fun a b => ¬ lexLt b.1 b.2.1.toNat b.2.2.toNat a.1 a.2.1.toNat a.2.2.toNat) := by
  rw [List.pairwise_map] at hs
  refine hs.imp_of_mem fun {a b} ha hb' hle hlt => ?_
  have := (pack_lt_iff b.1 a.1 b.2.1 a.2.1 b.2.2 a.2.2 (hb b hb').1 (hb a ha).1 (hb b hb').2 (hb a ha).2).mpr hlt
  omega

-- the range hypotheses are met up to their bounds: reference 2^40 - 1 and version 2^16 - 1, as used below
example : (⟨1099511627775, by decide⟩ : BitVec 64).toNat < 2^40 ∧ (65535#64).toNat < 2^16 := by decide
example : ObjectID_Type (layout .user 1099511627775#64 0#64) = some "user" := by decide
example : (layout .node 1099511627775#64 65535#64).toInt < (layout .way 0#64 0#64).toInt := by decide

end OsmVerif.Props.C10
