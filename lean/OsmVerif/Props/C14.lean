import OsmVerif.Lemmas.Walk
import OsmVerif.Gen.Annotate
/-!
# C14 — child-first relation ordering: once, children first, always ends

Theorems about `Model.Walk` (hand-written model of annotate/order.go, tied to the code by the
differential stream of `./check C14`). `H` is an arbitrary finite or infinite reference graph:
cycles, self loops, missing histories and repeated members are all allowed.
-/
namespace OsmVerif.Props.C14
open OsmVerif.Model.Walk

theorem order_good (H : Hist) (f : Nat) (ids : List Nat) : Good H [] (order H f ids) (fun _ => True) := by
  obtain ⟨new, h1, h2⟩ := calls_spec H (walk H f) (walk_spec H f) (fun _ => []) ids []
  rw [order, h1]
  exact h2.mono (fun _ _ => trivial)

/-- **never an id twice** — any graph, any request list, any fuel -/
theorem emitted_nodup (H : Hist) (f : Nat) (ids : List Nat) : (order H f ids).Nodup :=
  (order_good H f ids).nodup

/-- **never an id without history** -/
theorem emitted_have_history (H : Hist) (f : Nat) (ids : List Nat) :
    ∀ y ∈ order H f ids, ∃ ms, H y = some ms := by
  intro y hy
  obtain ⟨ms, hms, _⟩ := (order_good H f ids).history y hy
  exact ⟨ms, hms⟩

theorem walk_top_emits (H : Hist) (f : Nat) (out : List Nat) (x : Nat) (h : H x ≠ none) :
    x ∈ walk H (f + 1) out x [] := by
  by_cases hx : x ∈ out
  · rw [walk_of_mem hx]
    exact hx
  · obtain ⟨ms, hms⟩ := Option.ne_none_iff_exists'.mp h
    rw [walk_of_some_not_cut hx hms (fun _ _ => List.not_mem_nil)]
    exact List.mem_append_right _ (List.mem_singleton_self x)

/-- **every requested relation that has a history is emitted** (cycles and self references included):
    the top-level call never takes the cycle cut, because the requested id is not on its own path -/
theorem requested_with_history_emitted (H : Hist) (f : Nat) (ids : List Nat) (x : Nat) (ms : List Nat)
    (hx : x ∈ ids) (h : H x = some ms) : x ∈ order H (f + 1) ids :=
  (calls_emit H (walk H (f + 1)) (walk_spec H (f + 1)) (fun _ => []) (fun _ => True) ids
    (fun m _ out _ => ⟨trivial, walk_top_emits H f out m⟩) [] trivial).2 x hx (by rw [h]; exact Option.some_ne_none ms)

/-- `a` stands in `out` before an occurrence of `b` -/
def Before (out : List Nat) (a b : Nat) : Prop := ∃ A B, out = A ++ b :: B ∧ a ∈ A

theorem Before.append {out : List Nat} {a b : Nat} (h : Before out a b) (new : List Nat) :
    Before (out ++ new) a b := by
  obtain ⟨A, B, h1, h2⟩ := h
  exact ⟨A, B ++ new, by rw [h1]; simp, h2⟩

/-- every emitted relation comes after each of its relation members that has a history -/
def ChildrenFirst (H : Hist) (out : List Nat) : Prop :=
  ∀ x ∈ out, ∀ ms, H x = some ms → ∀ m ∈ ms, H m ≠ none → Before out m x

/-- the member graph has no cycle: `rank` falls from every relation with a history to each of its members -/
def Acyclic (H : Hist) (rank : Nat → Nat) : Prop :=
  ∀ x ms, H x = some ms → ∀ m ∈ ms, rank m < rank x

theorem ChildrenFirst.snoc {H : Hist} {out : List Nat} {x : Nat} {ms : List Nat} (h : ChildrenFirst H out)
    (hms : H x = some ms) (hx : ∀ m ∈ ms, H m ≠ none → m ∈ out) : ChildrenFirst H (out ++ [x]) := by
  intro y hy ms' hms' m hm hne
  rcases List.mem_append.mp hy with h1 | h1
  · exact (h y h1 ms' hms' m hm hne).append [x]
  · cases List.mem_singleton.mp h1
    cases hms.symm.trans hms'
    exact ⟨out, [], rfl, hx m hm hne⟩

/-- the induction on the fuel behind `children_first_of_rank`. `rank x < f` keeps the fuel from running out, as each
    nested call goes to a member, of lower rank, with one unit less; `∀ q ∈ p, rank x ≤ rank q` (on the path are the
    ancestors of `x`, and `x` itself in a nested call) keeps the members of `x`, which rank below it, off the path, so
    the cycle cut is never taken -/
theorem walk_acyclic (H : Hist) (rank : Nat → Nat) (hac : Acyclic H rank) :
    ∀ f out x p, (∀ ms, H x = some ms → rank x < f) → (∀ q ∈ p, rank x ≤ rank q) → ChildrenFirst H out →
      ChildrenFirst H (walk H f out x p) ∧ (H x ≠ none → x ∈ walk H f out x p) := by
  intro f
  induction f with
  | zero =>
    intro out x p hr _ hcf
    refine ⟨hcf, fun hne => ?_⟩
    obtain ⟨ms, hms⟩ := Option.ne_none_iff_exists'.mp hne
    exact absurd (hr ms hms) (Nat.not_lt_zero _)
  | succ f ih =>
    intro out x p hr hp hcf
    by_cases hx : x ∈ out
    · rw [walk_of_mem hx]
      exact ⟨hcf, fun _ => hx⟩
    cases hms : H x with
    | none =>
      rw [walk_of_none hms]
      exact ⟨hcf, fun hne => absurd rfl hne⟩
    | some ms =>
      have hnp : ∀ m ∈ ms, m ∉ p := fun m hm hmem =>
        Nat.lt_irrefl _ (Nat.lt_of_lt_of_le (hac x ms hms m hm) (hp m hmem))
      have hcall : ∀ m ∈ ms, ∀ out1, ChildrenFirst H out1 →
          ChildrenFirst H (walk H f out1 m (p ++ [m])) ∧ (H m ≠ none → m ∈ walk H f out1 m (p ++ [m])) := by
        intro m hm out1 h1
        have hrm : rank m < rank x := hac x ms hms m hm
        apply ih out1 m (p ++ [m]) (fun _ _ => Nat.lt_of_lt_of_le hrm (Nat.le_of_lt_succ (hr ms hms))) _ h1
        intro q hq
        rcases List.mem_append.mp hq with h | h
        · exact Nat.le_of_lt (Nat.lt_of_lt_of_le hrm (hp q h))
        · rw [List.mem_singleton.mp h]
          exact Nat.le_refl _
      obtain ⟨hcf', hmem⟩ :=
        calls_emit H (walk H f) (walk_spec H f) (fun m => p ++ [m]) (ChildrenFirst H) ms hcall out hcf
      rw [walk_of_some_not_cut hx hms hnp]
      exact ⟨hcf'.snoc hms hmem, fun _ => List.mem_append_right _ (List.mem_singleton_self x)⟩

theorem children_first_of_rank (H : Hist) (rank : Nat → Nat) (hac : Acyclic H rank) (f : Nat)
    (hf : ∀ x ms, H x = some ms → rank x < f) (ids : List Nat) : ChildrenFirst H (order H f ids) :=
  (calls_emit H (walk H f) (walk_spec H f) (fun _ => []) (ChildrenFirst H) ids
    (fun id _ out h => walk_acyclic H rank hac f out id [] (hf id) (by intro q hq; cases hq) h)
    [] (by intro x hx; cases hx)).1

/-- **children before parents**: on an acyclic member graph, with fuel above the graph's depth, every
    emitted relation comes after each of its relation members (of any version) that has a history;
    by transitivity after everything reachable from it through relations with history -/
theorem acyclic_children_first (H : Hist) (rank : Nat → Nat) (hac : Acyclic H rank) (f : Nat)
    (hf : ∀ x, rank x < f) (ids : List Nat) : ChildrenFirst H (order H f ids) :=
  children_first_of_rank H rank hac f (fun x _ _ => hf x) ids

/-- `y` is reached from `x` by going from a relation to one of its members that has a history, one or more times -/
inductive Reach (H : Hist) : Nat → Nat → Prop where
  | direct {x m : Nat} {ms : List Nat} : H x = some ms → m ∈ ms → H m ≠ none → Reach H x m
  | step {x m y : Nat} {ms : List Nat} : H x = some ms → m ∈ ms → H m ≠ none → Reach H m y → Reach H x y

theorem Before.mem_left {out : List Nat} {a b : Nat} (h : Before out a b) : a ∈ out := by
  obtain ⟨A, B, rfl, ha⟩ := h
  exact List.mem_append.mpr (Or.inl ha)

theorem Before.trans {out : List Nat} (hnd : out.Nodup) {a b c : Nat} (h1 : Before out a b) (h2 : Before out b c) :
    Before out a c := by
  obtain ⟨A1, B1, e1, ha⟩ := h1
  obtain ⟨A2, B2, e2, hb⟩ := h2
  refine ⟨A2, B2, e2, ?_⟩
  -- the two splittings of `out`: either `A1` is an initial part of `A2`, or `b` occurs in `A1` and again after it
  rcases List.append_eq_append_iff.mp (e1.symm.trans e2) with ⟨A', hA, _⟩ | ⟨C', hA, _⟩
  · rw [hA]
    exact List.mem_append_left _ ha
  · rw [e1, hA] at hnd
    exact absurd rfl ((List.nodup_append.mp hnd).2.2 b (List.mem_append_left _ hb) b (List.mem_cons_self ..))

/-- **children first, transitively**: when every emitted relation comes after its direct members with history,
    it comes after every relation reachable from it through members with history -/
theorem childrenFirst_transitive (H : Hist) (out : List Nat) (hnd : out.Nodup) (hcf : ChildrenFirst H out) :
    ∀ x y, Reach H x y → x ∈ out → Before out y x := by
  intro x y hr
  induction hr with
  | direct hms hm hne => intro hx; exact hcf _ hx _ hms _ hm hne
  | step hms hm hne _ ih =>
    intro hx
    have hb := hcf _ hx _ hms _ hm hne
    exact (ih hb.mem_left).trans hnd hb

/-- one more unit of fuel changes nothing once the fuel exceeds the length of a list `D` holding every relation with
    a history that is not yet on the path: a member with a history that the loop walks is in `D`, and on the path
    afterwards, so the nested walk does with one entry less -/
theorem walk_fuel_step (H : Hist) : ∀ f (D : List Nat) out x p, (∀ y ms, H y = some ms → y ∉ p → y ∈ D) →
    D.length + 1 ≤ f → walk H (f + 1) out x p = walk H f out x p := by
  intro f
  induction f with
  | zero => intro D out x p _ h; omega
  | succ f ih =>
    intro D out x p hD hf
    by_cases hx : x ∈ out
    · rw [walk_of_mem hx, walk_of_mem hx]
    cases hms : H x with
    | none => rw [walk_of_none hms, walk_of_none hms]
    | some ms =>
      rw [walk_of_some hx hms, walk_of_some hx hms]
      congr 1
      refine List.foldl_rel (r := Eq) rfl ?_
      intro m hm out' _ rfl
      have hmp : m ∉ p := by simpa using List.all_eq_true.mp List.all_takeWhile m hm
      cases hm' : H m with
      | none => rw [walk_of_none hm', walk_of_none hm']
      | some mms =>
        have hmD : m ∈ D := hD m mms hm' hmp
        have hlen := List.length_erase_of_mem hmD
        have hpos := List.length_pos_of_mem hmD
        apply ih (D.erase m) out' m (p ++ [m]) _ (by omega)
        intro y ys hy hyp
        have hne : y ≠ m := fun e => hyp (List.mem_append_right _ (List.mem_singleton.mpr e))
        exact (List.mem_erase_of_ne hne).mpr (hD y ys hy (fun h => hyp (List.mem_append_left _ h)))

/-- **the iteration ends on every graph** (cycles, self loops, shared children): once the fuel exceeds the
    number of relations that have a history, more fuel changes nothing — the recursion never gets deeper
    than that, so the fuel in the model is not a restriction and the walk terminates -/
theorem walk_fuel_sufficient (H : Hist) (D : List Nat) (hD : D.Nodup) (hH : ∀ y ms, H y = some ms → y ∈ D)
    (ids : List Nat) (k : Nat) : order H (D.length + 1 + k) ids = order H (D.length + 1) ids := by
  induction k with
  | zero => rfl
  | succ k ih =>
    rw [← ih, order, order]
    congr 1
    funext out id
    exact walk_fuel_step H (D.length + 1 + k) D out id [] (fun y ms hy _ => hH y ms hy) (by omega)

/-- **children before parents at the fuel that is proved sufficient**: on an acyclic member graph (any rank
    function, no bound assumed) whose relations with a history are the finite set `D`, the order computed with fuel
    `|D| + 1` — the fuel beyond which more fuel changes nothing (`walk_fuel_sufficient`) — emits every relation after
    everything reachable from it -/
theorem acyclic_children_first_sufficient_fuel (H : Hist) (D : List Nat) (hD : D.Nodup) (hH : ∀ y ms, H y = some ms → y ∈ D)
    (rank : Nat → Nat) (hac : Acyclic H rank) (ids : List Nat) :
    ChildrenFirst H (order H (D.length + 1) ids) ∧
    ∀ x y, Reach H x y → x ∈ order H (D.length + 1) ids → Before (order H (D.length + 1) ids) y x := by
  -- fuel above every rank met in `D` is enough for children first, and is more than the walk can use
  have hf : ∀ x ms, H x = some ms → rank x < D.length + 1 + ((D.map rank).max?.getD 0 + 1) := by
    intro x ms hms
    have := List.le_max?_getD_of_mem (k := 0) (List.mem_map_of_mem (f := rank) (hH x ms hms))
    omega
  have hcf := children_first_of_rank H rank hac _ hf ids
  rw [walk_fuel_sufficient H D hD hH ids] at hcf
  exact ⟨hcf, childrenFirst_transitive H _ (emitted_nodup H _ ids) hcf⟩

/-! Transition system of the producer goroutine and the consumer's `Next` around the unbuffered channel
`out` and the context (order.go:40-72, 76-114, 159-164). `walking` = inside `walk` between sends
(datasource calls, recursion); `sending id` = blocked in `select { case o.out <- id: case <-o.ctx.Done(): }`;
`done` = returned (`close(o.out)`, `wg.Done()`). -/

inductive Prod | walking | sending (id : Nat) | done
  deriving DecidableEq

structure Sys where
  prod : Prod
  cancelled : Bool
  inNext : Bool            -- the consumer is blocked in Next's select
  deriving DecidableEq

inductive PStep : Sys → Sys → Prop
  /-- walk reaches the emit of some id; only possible while `o.ctx.Err() == nil` (order.go:155-157) -/
  | emit (s : Sys) (id : Nat) : s.prod = .walking → s.cancelled = false → PStep s { s with prod := .sending id }
  /-- walk over all ids finished, or returned an error (datasource error, or ctx.Err() after cancellation) -/
  | finish (s : Sys) : s.prod = .walking → PStep s { s with prod := .done }
  /-- the send meets a consumer blocked in Next -/
  | handoff (s : Sys) (id : Nat) : s.prod = .sending id → s.inNext = true →
      PStep s { s with prod := .walking, inNext := false }
  /-- the send's select takes `<-o.ctx.Done()` -/
  | abortSend (s : Sys) (id : Nat) : s.prod = .sending id → s.cancelled = true → PStep s { s with prod := .done }

def prank : Prod → Nat
  | .sending _ => 2
  | .walking => 1
  | .done => 0

/-- **no deadlock after Close / cancel**: whatever the consumer is doing, a producer that has not returned
    has an enabled step once the context is cancelled -/
theorem close_no_deadlock (s : Sys) (hc : s.cancelled = true) (hp : s.prod ≠ .done) : ∃ s', PStep s s' := by
  cases h : s.prod with
  | walking => exact ⟨_, PStep.finish s h⟩
  | sending id => exact ⟨_, PStep.abortSend s id h hc⟩
  | done => exact absurd h hp

/-- **and it ends**: after cancellation every producer step strictly lowers a rank bounded by 2, so the
    goroutine returns after at most two of its own steps (then `wg.Wait()` in `Close` returns) -/
theorem close_producer_terminates (s s' : Sys) (hc : s.cancelled = true) (h : PStep s s') :
    s'.cancelled = true ∧ prank s'.prod < prank s.prod := by
  cases h with
  | emit id hw hn => rw [hc] at hn; cases hn
  | finish hw => simp [hc, hw, prank]
  | handoff id hs hn => simp [hc, hs, prank]
  | abortSend id hs _ => simp [hc, hs, prank]

def infixOf (sub : List Char) : List Char → Bool
  | [] => sub.isEmpty
  | c :: cs => sub.isPrefixOf (c :: cs) || infixOf sub cs

def hasSub (sub s : String) : Bool := infixOf sub.toList s.toList

open OsmVerif.Gen.Annotate in
/-- the premises of the producer's transition system in the source (`Gen.Annotate`, regenerated from order.go):
    the walk has exactly one channel send; it is the last thing the walk does, inside a `select` whose other
    branch is `<-o.ctx.Done()` returning the context's error (`abortSend`), right after the `o.ctx.Err()` test
    (`emit` only while not cancelled); `Close` cancels and waits; the goroutine signals the wait group and closes
    `out` when it returns; `Next` waits on `out` or on `Done` -/
theorem producer_protocol_pinned :
    orderWalkBody.filter (hasSub "o.out <-") = ["case o.out <- id:"] ∧
    orderWalkBody.drop (orderWalkBody.length - 10) =
      ["if o.ctx.Err() != nil {", "return o.ctx.Err()", "}", "o.visited[id] = struct{}{}", "select {", "case o.out <- id:",
       "case <-o.ctx.Done():", "return o.ctx.Err()", "}", "return nil"] ∧
    orderCloseBody = ["o.done()", "o.wg.Wait()"] ∧
    orderNewBody.contains "o.wg.Add(1)" = true ∧ orderNewBody.contains "defer o.wg.Done()" = true ∧
    orderNewBody.contains "defer close(o.out)" = true ∧
    orderNextBody = ["if o.err != nil || o.ctx.Err() != nil {", "return false", "}", "select {", "case id, ok := <-o.out:",
      "if !ok {", "return false", "}", "o.id = id", "return true", "case <-o.ctx.Done():", "return false", "}"] := by
  decide +kernel

def exCyc : Hist := fun n => if n = 1 then some [1, 2] else if n = 2 then some [1] else none
example : order exCyc 10 [1] = [2, 1] := by decide
example : order exCyc 10 [2, 1, 2] = [2, 1] := by decide
/-- `walk_fuel_sufficient` on the cycle: two relations have a history, fuel 3 is enough and more changes nothing -/
example : order exCyc (2 + 1) [2, 1, 2] = order exCyc (2 + 1 + 7) [2, 1, 2] := by decide
example : ∀ y ms, exCyc y = some ms → y ∈ [1, 2] := by
  intro y ms h
  by_cases h1 : y = 1
  · subst h1; decide
  by_cases h2 : y = 2
  · subst h2; decide
  · rw [exCyc, if_neg h1, if_neg h2] at h
    cases h
def exDag : Hist := fun n => if n = 3 then some [2, 1, 0] else if n = 2 then some [1] else if n = 1 then some [] else none
example : order exDag 10 [3, 1] = [1, 2, 3] := by decide
theorem exDag_members {x : Nat} {ms : List Nat} (h : exDag x = some ms) : ∀ m ∈ ms, m < x ∧ x ≤ 3 := by
  by_cases h3 : x = 3
  · subst h3; cases h; decide
  by_cases h2 : x = 2
  · subst h2; cases h; decide
  by_cases h1 : x = 1
  · subst h1; cases h; decide
  · rw [exDag, if_neg h3, if_neg h2, if_neg h1] at h
    cases h

example : Acyclic exDag id := fun _ _ h m hm => (exDag_members h m hm).1

/-- the full hypothesis set of `acyclic_children_first`, with a bounded rank -/
example : Acyclic exDag (fun x => min x 4) := by
  intro x ms h m hm
  have := exDag_members h m hm
  simp only
  omega
example : ∀ x, (fun x => min x 4) x < 5 := by intro x; simp only; omega
example : Reach exDag 3 1 := Reach.step (ms := [2, 1, 0]) (m := 2) (by decide) (by decide) (by decide)
  (Reach.direct (ms := [1]) (by decide) (by decide) (by decide))

end OsmVerif.Props.C14
