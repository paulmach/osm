import OsmVerif.Model.PbfScan
import OsmVerif.Lemmas.Pbf
import OsmVerif.Lemmas.PbfScan
/-!
# C08 — skip flags and filters select an unmodified subsequence

`Model.PbfScan.scanBlock` follows `scanPrimitiveGroup` / `extractDenseNodes`: one accumulator per kind,
messages set what they carry, an accepted element is handed out and the accumulator replaced, a rejected
one is overwritten by the literal found in the source. The theorems show that for every selection and every
valid block this is exactly the filter of the unfiltered decode.
-/
namespace OsmVerif.Props.C08
open OsmVerif.Gen.Pbf OsmVerif.Model.Pbf OsmVerif.Model.PbfScan

/-- the replacement / overwrite statements as `specReuses` writes them out; `reuses_eq` shows that they are what is read from the source -/
abbrev RU : Reuses := specReuses

theorem reuses_eq : reuses = some RU := by
  -- `hasPrefix` is left as it is (cf. `hasPrefix_eq_startsWith`): what `literalFields` tests with it, it goes on to
  -- take apart character by character
  decide +kernel

/-- each element kind is skipped by its own flag, at the level of the primitive group field -/
theorem skip_guards :
    skipGuards = [("1", ""), ("2", "!dec.scanner.SkipNodes"), ("3", "!dec.scanner.SkipWays"), ("4", "!dec.scanner.SkipRelations")] := by
  rw [skipGuards]
  simp only [hasPrefix_eq_startsWith]
  decide +kernel

/-- the accumulators the element loops start from are new objects with only `Visible` set, as `freshWay` /
    `freshRel` / `freshNode` are -/
theorem initial_accumulators_fresh :
    initialAccumulators = ["way := &osm.Way{Visible: true}", "relation := &osm.Relation{Visible: true}", "n := &osm.Node{Visible: true}"] :=
  rfl

/-- a reuse discipline that carries nothing over: the object that replaces the accumulator after an accepted element
    (`way = &osm.Way{Visible: true}`) and the literal that overwrites it after a rejected one
    (`*way = osm.Way{Visible: true, Nodes: nodes[:0], Tags: tags[:0]}`) are both indistinguishable from a new
    accumulator, for each of the three kinds -/
structure Fresh (ru : Reuses) : Prop where
  way : ∀ w, applyWay ru.way.accept w = freshWay ∧ applyWay ru.way.reject w = freshWay
  rel : ∀ r, applyRel ru.rel.accept r = freshRel ∧ applyRel ru.rel.reject r = freshRel
  node : ∀ n, applyNode ru.node.accept n = freshNode ∧ applyNode ru.node.reject n = freshNode

theorem fresh_RU : Fresh RU :=
  ⟨fun _ => ⟨rfl, rfl⟩, fun _ => ⟨rfl, rfl⟩, fun _ => ⟨rfl, rfl⟩⟩

/-- **a reused accumulator carries nothing over**: after an accepted and after a rejected element the
    accumulator is indistinguishable from a new one, whatever the element held -/
theorem reuse_is_fresh (w : Way) (r : Rel) (n : Node) :
    applyWay RU.way.accept w = freshWay ∧ applyWay RU.way.reject w = freshWay ∧
    applyRel RU.rel.accept r = freshRel ∧ applyRel RU.rel.reject r = freshRel ∧
    applyNode RU.node.accept n = freshNode ∧ applyNode RU.node.reject n = freshNode :=
  ⟨(fresh_RU.way w).1, (fresh_RU.way w).2, (fresh_RU.rel r).1, (fresh_RU.rel r).2, (fresh_RU.node n).1, (fresh_RU.node n).2⟩

/-! ## a message on top of a fresh accumulator is the decoded element -/

theorem mergeMeta_fresh (dg : Int) (st : List String) (info : Option Info) (m : Meta) (h : decodeInfo dg st info = some m) :
    mergeMeta {} info m = m := by
  cases info with
  | none => exact Option.some.inj h
  | some i =>
    simp only [decodeInfo, Option.map_eq_some_iff] at h
    obtain ⟨user, huser, rfl⟩ := h
    obtain ⟨ver, ts, cs, uid, sid, vis⟩ := i
    -- field by field: a field the Info message does not carry was decoded to the default a new object holds
    simp only [mergeMeta, Meta.mk.injEq]
    refine ⟨?_, ?_, ?_, ?_, ?_, ?_⟩
    · cases ver <;> rfl
    · cases ts <;> rfl
    · cases cs <;> rfl
    · cases uid <;> rfl
    · cases sid
      · exact Option.some.inj huser
      · rfl
    · cases vis <;> rfl

theorem decodeWay_parts (gran dg la lo : Int) (st : List String) (w : WayMsg) (d : Way)
    (h : decodeWay gran dg la lo st w = some d) :
    decodeInfo dg st w.info = some d.md ∧ decodeTags st w.keys w.vals = some d.tags ∧ (¬ w.refs.isSome → d.nodes = []) := by
  unfold decodeWay at h
  simp only at h
  split at h
  · rename_i m tags lats lons hm ht _ _
    cases h
    refine ⟨hm, ht, fun hr => ?_⟩
    rw [Option.not_isSome_iff_eq_none.1 hr]
    rfl
  · cases h

theorem decodeTags_absent (st : List String) (k v : Option (List Int)) (tags : List (String × String))
    (h : decodeTags st k v = some tags) (hn : ¬ (k.isSome ∧ v.isSome)) : tags = [] := by
  cases k <;> cases v <;> simp only [decodeTags] at h
  · exact (Option.some.inj h).symm
  · split at h <;> cases h
    rfl
  · split at h <;> cases h
    rfl
  · simp at hn

theorem mergeWay_fresh (gran dg la lo : Int) (st : List String) (w : WayMsg) :
    mergeWay gran dg la lo st freshWay w = decodeWay gran dg la lo st w := by
  unfold mergeWay
  cases h : decodeWay gran dg la lo st w with
  | none => rfl
  | some d =>
    obtain ⟨hm, ht, hn⟩ := decodeWay_parts _ _ _ _ _ _ _ h
    simp only [Option.map_some, freshWay]
    rw [mergeMeta_fresh dg st w.info d.md hm, ite_eq_left_iff.2 fun c => (decodeTags_absent st _ _ _ ht c).symm,
      ite_eq_left_iff.2 fun c => (hn c).symm]

theorem decodeRel_parts (dg : Int) (st : List String) (r : RelMsg) (d : Rel) (h : decodeRel dg st r = some d) :
    decodeInfo dg st r.info = some d.md ∧ decodeTags st r.keys r.vals = some d.tags ∧
    (¬ (r.roles.isSome ∧ r.memids.isSome ∧ r.types.isSome) → d.members = []) := by
  unfold decodeRel at h
  simp only at h
  split at h
  · cases h
  · rename_i hlen
    split at h
    · rename_i m tags members hm ht hmem
      cases h
      refine ⟨hm, ht, fun hnot => ?_⟩
      -- the three columns have one length, and an absent one has length 0: there are no members
      have hsome (o : Option (List Int)) (hp : (o.getD []).length ≠ 0) : o.isSome = true := by
        cases o
        · exact absurd rfl hp
        · rfl
      have hz : (undelta (r.memids.getD [])).length = 0 := by
        apply Decidable.byContradiction
        intro hpos
        obtain ⟨hr, ht⟩ := not_or.1 hlen
        rw [Decidable.not_not] at hr ht
        exact hnot ⟨hsome _ (hr ▸ hpos), hsome _ (undelta_length _ ▸ hpos), hsome _ (ht ▸ hpos)⟩
      rw [hz] at hmem
      exact (Option.some.inj hmem).symm
    · cases h

theorem mergeRel_fresh (dg : Int) (st : List String) (r : RelMsg) : mergeRel dg st freshRel r = decodeRel dg st r := by
  unfold mergeRel
  cases h : decodeRel dg st r with
  | none => rfl
  | some d =>
    obtain ⟨hm, ht, hn⟩ := decodeRel_parts _ _ _ _ h
    simp only [Option.map_some, freshRel]
    rw [mergeMeta_fresh dg st r.info d.md hm, ite_eq_left_iff.2 fun c => (decodeTags_absent st _ _ _ ht c).symm,
      ite_eq_left_iff.2 fun c => (hn c).symm]

theorem mergeNode_fresh (gran dg la lo : Int) (st : List String) (d : Dense) (ns : List Node)
    (h : decodeDense gran dg la lo st d = some ns) : ∀ n ∈ ns, mergeNode d freshNode n = n := by
  intro n hn
  obtain ⟨i, hlt, rfl⟩ := List.mem_iff_getElem.1 hn
  obtain ⟨v, t, c, u, s, vi, user, hv, ht, hc, hu, hs, hvi, huser, hmd⟩ := (decodeDense_getElem h).2 i hlt
  clear hn
  generalize ns[i] = n at hmd
  obtain ⟨id, md, lat, lon, tags⟩ := n
  cases hmd
  -- field by field: where the column is absent, `decodeDense` read `none` and produced the default `freshNode` holds
  simp only [mergeNode, freshNode, List.nil_append, Node.mk.injEq, Meta.mk.injEq, true_and, and_true, ite_eq_left_iff]
  refine ⟨?_, ?_, ?_, ?_, ?_, ?_⟩ <;> intro hn
  · rw [getCol_absent hv (col_absent _ _ hn)]; rfl
  · rw [getCol_absent ht (congrArg _ (col_absent _ _ hn))]; rfl
  · rw [getCol_absent hc (congrArg _ (col_absent _ _ hn))]; rfl
  · rw [getCol_absent hu (congrArg _ (col_absent _ _ hn))]; rfl
  · rw [getCol_absent hs (congrArg _ (col_absent _ _ hn))] at huser
    exact Option.some.inj huser
  · rw [getCol_absent hvi (col_absent _ _ hn)]

/-- the accumulator is a new one again after every element, accepted or rejected, so the scan that starts from
    `freshWay` decodes each message on its own -/
theorem scanWays_eq (ru : Reuse) (hru : ∀ w, applyWay ru.accept w = freshWay ∧ applyWay ru.reject w = freshWay)
    (keep : Way → Bool) (merge : Way → WayMsg → Option Way) (dec : WayMsg → Option Way)
    (hm : ∀ w, merge freshWay w = dec w) (ws : List WayMsg) :
    scanWays ru keep merge freshWay ws = (ws.mapM dec).map (·.filter keep) := by
  induction ws with
  | nil => simp [scanWays]
  | cons m ms ih =>
    rw [scanWays, hm, List.mapM_cons]
    cases dec m with
    | none => simp
    | some w =>
      simp only [(hru w).1, (hru w).2, ih]
      cases ms.mapM dec <;> cases k : keep w <;> simp [k]

theorem scanRels_eq (ru : Reuse) (hru : ∀ r, applyRel ru.accept r = freshRel ∧ applyRel ru.reject r = freshRel)
    (keep : Rel → Bool) (merge : Rel → RelMsg → Option Rel) (dec : RelMsg → Option Rel)
    (hm : ∀ r, merge freshRel r = dec r) (rs : List RelMsg) :
    scanRels ru keep merge freshRel rs = (rs.mapM dec).map (·.filter keep) := by
  induction rs with
  | nil => simp [scanRels]
  | cons m ms ih =>
    rw [scanRels, hm, List.mapM_cons]
    cases dec m with
    | none => simp
    | some r =>
      simp only [(hru r).1, (hru r).2, ih]
      cases ms.mapM dec <;> cases k : keep r <;> simp [k]

theorem scanNodes_eq (ru : Reuse) (hru : ∀ n, applyNode ru.accept n = freshNode ∧ applyNode ru.reject n = freshNode)
    (keep : Node → Bool) (d : Dense) (ns : List Node) (hm : ∀ n ∈ ns, mergeNode d freshNode n = n) :
    scanNodes ru keep d freshNode ns = ns.filter keep := by
  induction ns with
  | nil => simp [scanNodes]
  | cons n rest ih =>
    rw [scanNodes]
    simp only [hm n List.mem_cons_self, (hru n).1, (hru n).2, ih fun x hx => hm x (List.mem_cons_of_mem n hx), List.filter_cons]

theorem scanGroup_eq_filter_of_fresh (ru : Reuses) (hru : Fresh ru) (s : Select) (gran dg la lo : Int) (st : List String)
    (g : Group) (os : List Obj) (h : decodeGroup gran dg la lo st g = some os) :
    scanGroup ru s gran dg la lo st g = some (os.filter s.keep) := by
  cases g
  all_goals
    simp only [decodeGroup, Option.map_eq_some_iff] at h
    obtain ⟨l, hl, rfl⟩ := h
    rw [List.filter_map]
  -- what is left in each case: `s.keep` on one kind is that kind's flag and filter
  case dense d =>
    rw [scanGroup, hl, Option.map_some, scanNodes_eq ru.node hru.node s.node d l (mergeNode_fresh _ _ _ _ _ _ _ hl)]
    cases hs : s.skipNodes <;> simp [Function.comp_def, Select.keep, hs]
  case ways ws =>
    rw [scanGroup, scanWays_eq ru.way hru.way s.way _ _ (mergeWay_fresh gran dg la lo st) ws, hl]
    cases hs : s.skipWays <;> simp [Function.comp_def, Select.keep, hs]
  case rels rs =>
    rw [scanGroup, scanRels_eq ru.rel hru.rel s.rel _ _ (mergeRel_fresh dg st) rs, hl]
    cases hs : s.skipRels <;> simp [Function.comp_def, Select.keep, hs]

/-- blocks and files alike: where every part scans to the filter of its decode, so does the concatenation -/
theorem mapM_flatten_filter {α β} {f g : α → Option (List β)} (keep : β → Bool) {l : List α} {os : List β}
    (h : (l.mapM f).map List.flatten = some os) (hg : ∀ x y, f x = some y → g x = some (y.filter keep)) :
    (l.mapM g).map List.flatten = some (os.filter keep) := by
  simp only [Option.map_eq_some_iff] at h
  obtain ⟨r, hr, rfl⟩ := h
  rw [mapM_map_of_forall (·.filter keep) hr hg]
  simp [List.filter_flatten]

theorem scanBlock_eq_filter_of_fresh (ru : Reuses) (hru : Fresh ru) (s : Select) (b : Block) (os : List Obj)
    (h : decodeBlock b = some os) : scanBlock ru s b = some (os.filter s.keep) :=
  mapM_flatten_filter s.keep h fun g os hg => scanGroup_eq_filter_of_fresh ru hru s _ _ _ _ _ g os hg

theorem scanFile_eq_filter_of_fresh (ru : Reuses) (hru : Fresh ru) (s : Select) (bs : List Block) (os : List Obj)
    (h : decodeFile bs = some os) : (bs.mapM (scanBlock ru s)).map List.flatten = some (os.filter s.keep) :=
  mapM_flatten_filter s.keep h fun b os hb => scanBlock_eq_filter_of_fresh ru hru s b os hb

/-- one primitive group (`scanPrimitiveGroup`) under any selection: the filter of its unfiltered decode -/
theorem scanGroup_eq_filter (s : Select) (gran dg la lo : Int) (st : List String) (g : Group) (os : List Obj)
    (h : decodeGroup gran dg la lo st g = some os) : scanGroup RU s gran dg la lo st g = some (os.filter s.keep) :=
  scanGroup_eq_filter_of_fresh RU fresh_RU s gran dg la lo st g os h

/-- **the scan of a block under any selection is the filter of its unfiltered decode** -/
theorem scanBlock_eq_filter (s : Select) (b : Block) (os : List Obj) (h : decodeBlock b = some os) :
    scanBlock RU s b = some (os.filter s.keep) :=
  scanBlock_eq_filter_of_fresh RU fresh_RU s b os h

/-- hence a subsequence, in the same order, of unmodified elements -/
theorem scanBlock_sublist (s : Select) (b : Block) (os : List Obj) (h : decodeBlock b = some os) :
    ∃ sel, scanBlock RU s b = some sel ∧ sel.Sublist os ∧ ∀ o ∈ sel, o ∈ os ∧ s.keep o = true :=
  ⟨os.filter s.keep, scanBlock_eq_filter s b os h, List.filter_sublist, fun o ho => by simpa using ho⟩

/-- a whole file: the scan under any selection, any number of blocks, is the filter of the unfiltered scan -/
theorem scanFile_eq_filter (s : Select) (bs : List Block) (os : List Obj) (h : decodeFile bs = some os) :
    (bs.mapM (scanBlock RU s)).map List.flatten = some (os.filter s.keep) :=
  scanFile_eq_filter_of_fresh RU fresh_RU s bs os h

example : scanBlock RU { way := fun w => w.id % 2 == 0 }
    { strings := ["", "k", "v"], groups := [.ways [{ id := 1, keys := some [1], vals := some [2], refs := some [5, 1] }, { id := 2 }, { id := 4, refs := some [] }]] } =
    some [.way { id := 2 }, .way { id := 4 }] := by decide

/-- dense nodes and relations: a block that decodes (hypothesis of `scanBlock_eq_filter`), filtered by both kinds -/
def exB : Block := { strings := ["", "k", "v", "r"], groups := [
  .dense { ids := [1, 1, 1], lat := [10, 1, 1], lon := [20, 1, 1], kv := some [1, 2, 0, 0, 1, 2, 0] },
  .rels [{ id := 7, roles := some [3], memids := some [2], types := some [0] }, { id := 8 }]] }
example : (decodeBlock exB).map (·.length) = some 5 := by decide
example : (scanBlock RU { node := fun n => n.id % 2 == 1, rel := fun r => r.id == 8 } exB).map
    (·.map fun o => match o with | .node n => ("n", n.id) | .way w => ("w", w.id) | .rel r => ("r", r.id)) =
    some [("n", 1), ("n", 3), ("r", 8)] := by decide

end OsmVerif.Props.C08
