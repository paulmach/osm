import OsmVerif.Props.C10
import OsmVerif.Model.IdText
import OsmVerif.Lemmas.Text
/-!
# C10 (text) — the textual form of an id parses back to it; only `kind/ref[:version]` is accepted

Theorems about the hand-written model `Model.IdText` of `String()` / `Parse*ID`
(tied to the code by the differential stream of `./check C10`), on top of the
regenerated bit-level model `Gen.Ids`.
-/
namespace OsmVerif.Props.C10Text
open OsmVerif.Gen.Ids OsmVerif.Model.Text OsmVerif.Model.IdText OsmVerif.Props.C10

theorem name_no_slash (k : Kind) : '/' ∉ k.name.toList := by cases k <;> decide

theorem toInt_of_small (x : BitVec 64) (h : x.toNat < 2^63) : x.toInt = (x.toNat : Int) :=
  BitVec.toInt_eq_toNat_of_lt (by omega)

theorem showInt_small (x : BitVec 64) (h : x.toNat < 2^63) : showInt x.toInt = Nat.toDigits 10 x.toNat := by
  rw [toInt_of_small x h]
  exact showInt_natCast _

theorem parseInt64_small (x : BitVec 64) (h : x.toNat < 2^63) :
    parseInt64 (Nat.toDigits 10 x.toNat) = some x.toInt := by
  rw [toInt_of_small x h]
  exact parseInt64_showNat _ h

/-- The `ref:version` text that `ObjectID.String` (object.go) and `ElementID.String` (element.go) print after
    `kind/`: version 0 is shown as `-`. -/
def refVersionText (r v : BitVec 64) : List Char :=
  showInt r.toInt ++ ':' :: (if v = 0#64 then ['-'] else showInt v.toInt)

theorem refVersionText_eq (r v : BitVec 64) (hr : r.toNat < 2^63) (hv : v.toNat < 2^63) :
    refVersionText r v =
      Nat.toDigits 10 r.toNat ++ ':' :: (if v = 0#64 then ['-'] else Nat.toDigits 10 v.toNat) := by
  rw [refVersionText, showInt_small r hr, showInt_small v hv]

theorem refVersionText_no_slash (r v : BitVec 64) (hr : r.toNat < 2^63) (hv : v.toNat < 2^63) :
    '/' ∉ refVersionText r v := by
  have hd := fun n => sep_not_mem_toDigits n '/'
  rw [refVersionText_eq r v hr hv]
  split <;> simp [hd]

theorem parseRefVersion_show (r v : BitVec 64) (hr : r.toNat < 2^63) (hv : v.toNat < 2^63) :
    parseRefVersion (refVersionText r v) = some (r.toInt, v.toInt) := by
  have hc := fun n => sep_not_mem_toDigits n ':'
  rw [refVersionText_eq r v hr hv, parseRefVersion, splitOn_append _ _ _ (hc _)]
  by_cases h0 : v = 0#64
  · simp [h0, splitOn_of_not_mem, parseInt64_small r hr]
  · have hne : Nat.toDigits 10 v.toNat ≠ ['-'] := by
      intro e
      have hminus := sep_not_mem_toDigits v.toNat '-'
      simp [e] at hminus
    simp [h0, splitOn_of_not_mem _ _ (hc _), parseInt64_small r hr, parseInt64_small v hv, hne]

theorem split_kind (k : Kind) (rest : List Char) (h : '/' ∉ rest) :
    splitOn '/' (k.name.toList ++ '/' :: rest) = [k.name.toList, rest] := by
  rw [splitOn_append _ _ _ (name_no_slash k), splitOn_of_not_mem _ _ h]

/-- the two branches of `ObjectID.String` and `ElementID.String` -/
theorem some_refVersionText (t : List Char) (r v : BitVec 64) :
    (if v = 0#64 then some (t ++ '/' :: showInt r.toInt ++ [':', '-'])
      else some (t ++ '/' :: showInt r.toInt ++ ':' :: showInt v.toInt)) = some (t ++ '/' :: refVersionText r v) := by
  unfold refVersionText
  split <;> simp

theorem showElement_layout (k : Kind) (hk : k.isElement) (r v : BitVec 64)
    (hr : r.toNat < 2^40) (hv : v.toNat < 2^16) :
    showElement (layout k r v) = some (k.name.toList ++ '/' :: refVersionText r v) := by
  unfold showElement
  rw [element_type k hk r v hr, element_ref k r v hr, element_version k r v hv]
  exact some_refVersionText _ r v

theorem showObject_layout (k : Kind) (r v : BitVec 64) (hr : r.toNat < 2^40) (hv : v.toNat < 2^16) :
    showObject (layout k r v) = some (k.name.toList ++ '/' :: refVersionText r v) := by
  unfold showObject
  rw [object_type k r v hr, object_ref k r v hr, object_version k r v hv]
  exact some_refVersionText _ r v

theorem parseElement_kind (k : Kind) (rest : List Char) (h : '/' ∉ rest) :
    parseElement (k.name.toList ++ '/' :: rest) = (parseRefVersion rest).bind fun p =>
      (Type_FeatureID k.name (BitVec.ofInt 64 p.1)).map fun fid => FeatureID_ElementID fid (BitVec.ofInt 64 p.2) := by
  unfold parseElement
  rw [split_kind k rest h]
  simp only [String.ofList_toList]
  cases parseRefVersion rest with
  | none => rfl
  | some p => cases hf : Type_FeatureID k.name (BitVec.ofInt 64 p.1) <;> simp [hf]

theorem parseObject_kind (k : Kind) (rest : List Char) (h : '/' ∉ rest) :
    parseObject (k.name.toList ++ '/' :: rest) = (parseRefVersion rest).bind fun p =>
      Type_objectID k.name (BitVec.ofInt 64 p.1) (BitVec.ofInt 64 p.2) := by
  unfold parseObject
  rw [split_kind k rest h]
  simp only [String.ofList_toList]
  cases parseRefVersion rest <;> rfl

/-- `ParseElementID(id.String()) = id` for every node/way/relation element id in range. -/
theorem parse_show_element (k : Kind) (hk : k.isElement) (r v : BitVec 64)
    (hr : r.toNat < 2^40) (hv : v.toNat < 2^16) :
    ∃ s, showElement (layout k r v) = some s ∧ parseElement s = some (layout k r v) := by
  have hr' : r.toNat < 2^63 := Nat.lt_trans hr (by decide)
  have hv' : v.toNat < 2^63 := Nat.lt_trans hv (by decide)
  refine ⟨_, showElement_layout k hk r v hr hv, ?_⟩
  rw [parseElement_kind k _ (refVersionText_no_slash r v hr' hv'), parseRefVersion_show r v hr' hv']
  simp [type_featureID, hk, feature_to_element k r v hv]

/-- the packed object id `Type.objectID` builds for a kind (elements carry a version, bounds no ref) -/
def objectId (k : Kind) (r v : BitVec 64) : BitVec 64 :=
  if k.isElement then layout k r v else if k = .bounds then layout k 0#64 0#64 else layout k r 0#64

/-- the common part of the three cases of `parse_show_object`. `hobj`: for this kind `Type.objectID` packs `r` and `v`
    as they are — it drops the version of a non-element and the reference of bounds, so it holds when those are 0 -/
theorem parse_show_layout (k : Kind) (r v : BitVec 64) (hr : r.toNat < 2^40) (hv : v.toNat < 2^16)
    (hobj : Type_objectID k.name r v = some (layout k r v)) :
    ∃ s, showObject (layout k r v) = some s ∧ parseObject s = some (layout k r v) := by
  have hr' : r.toNat < 2^63 := Nat.lt_trans hr (by decide)
  have hv' : v.toNat < 2^63 := Nat.lt_trans hv (by decide)
  refine ⟨_, showObject_layout k r v hr hv, ?_⟩
  rw [parseObject_kind k _ (refVersionText_no_slash r v hr' hv'), parseRefVersion_show r v hr' hv']
  simpa using hobj

/-- `ParseObjectID(id.String()) = id` for every object id in range, all seven kinds. -/
theorem parse_show_object (k : Kind) (r v : BitVec 64) (hr : r.toNat < 2^40) (hv : v.toNat < 2^16) :
    ∃ s, showObject (objectId k r v) = some s ∧ parseObject s = some (objectId k r v) := by
  unfold objectId
  split
  · next hk => exact parse_show_layout k r v hr hv (by rw [type_objectID, if_pos hk])
  · next hk =>
    split
    · next hb => exact parse_show_layout k 0#64 0#64 (by decide) (by decide) (by rw [type_objectID, if_neg hk, if_pos hb])
    · next hb => exact parse_show_layout k r 0#64 hr (by decide) (by rw [type_objectID, if_neg hk, if_neg hb])

/-- `ParseFeatureID(id.String()) = id` for every node/way/relation feature id in range. -/
theorem parse_show_feature (k : Kind) (hk : k.isElement) (r : BitVec 64) (hr : r.toNat < 2^40) :
    parseFeature (showFeature (layout k r 0#64)) = some (layout k r 0#64) := by
  unfold showFeature
  have hne : k.name ≠ "" := by cases k <;> decide
  rw [feature_type k hk r hr, feature_ref k r _ hr]
  simp only [hne, if_false]
  have hr' : r.toNat < 2^63 := Nat.lt_trans hr (by decide)
  rw [showInt_small r hr']
  unfold parseFeature
  rw [split_kind k _ (sep_not_mem_toDigits _ '/')]
  simp only [parseInt64_small r hr', String.ofList_toList, BitVec.ofInt_toInt]
  rw [type_featureID k r, if_pos hk]

theorem objectID_known {s : String} {r v x : BitVec 64} (h : Type_objectID s r v = some x) :
    ∃ k : Kind, s = k.name := by
  apply Classical.byContradiction
  intro hne
  rw [type_objectID_unknown s r v (fun k e => hne ⟨k, e⟩)] at h
  cases h

theorem featureID_known {s : String} {r x : BitVec 64} (h : Type_FeatureID s r = some x) :
    ∃ k : Kind, k.isElement ∧ s = k.name := by
  apply Classical.byContradiction
  intro hne
  rw [type_featureID_unknown s r (fun k hk e => hne ⟨k, hk, e⟩)] at h
  cases h

def IsRefVersion (rest : List Char) : Prop :=
  IsNumeral rest ∨ ∃ rs vs, rest = rs ++ ':' :: vs ∧ IsNumeral rs ∧ (vs = ['-'] ∨ IsNumeral vs)

theorem parseRefVersion_shape {rest : List Char} {p : Int × Int} (h : parseRefVersion rest = some p) :
    IsRefVersion rest := by
  unfold parseRefVersion at h
  split at h
  · next r hs =>
    obtain rfl := (splitOn_one hs).1
    exact Or.inl (parseInt64_numeral fun e => by simp [e] at h)
  · next r v hs =>
    refine Or.inr ⟨r, v, (splitOn_two hs).1, parseInt64_numeral fun e => by simp [e] at h, ?_⟩
    by_cases hv : v = ['-']
    · exact Or.inl hv
    · refine Or.inr (parseInt64_numeral fun e => ?_)
      cases hr : parseInt64 r <;> simp [hr, hv, e] at h
  · cases h

theorem ofList_eq_name {l : List Char} {k : Kind} (h : String.ofList l = k.name) : l = k.name.toList := by
  rw [← h]; simp

/-- `ParseObjectID`, `ParseElementID` and `ParseFeatureID` all begin with `strings.Split(s, "/")` and demand
    two parts; `G` is what each does with them. -/
theorem kind_rest_of_some {α : Type} {G : List Char → List Char → Option α} {s : List Char} {x : α}
    (h : (match splitOn '/' s with
          | [k, rest] => G k rest
          | _ => none) = some x) :
    ∃ k rest, s = k ++ '/' :: rest ∧ G k rest = some x := by
  split at h
  · next k rest hs => exact ⟨k, rest, (splitOn_two hs).1, h⟩
  · cases h

/-- `ParseObjectID` succeeds only on `kind/ref[:version|-]` with one of the seven kinds. -/
theorem parseObject_shape {s : List Char} {x : BitVec 64} (h : parseObject s = some x) :
    ∃ (k : Kind) (rest : List Char), s = k.name.toList ++ '/' :: rest ∧ IsRefVersion rest := by
  obtain ⟨kk, rest, hs, h⟩ := kind_rest_of_some h
  cases hp : parseRefVersion rest with
  | none => simp [hp] at h
  | some p =>
    simp only [hp] at h
    obtain ⟨k, hk⟩ := objectID_known h
    exact ⟨k, rest, by rw [hs, ofList_eq_name hk], parseRefVersion_shape hp⟩

/-- `ParseElementID` succeeds only on `kind/ref[:version|-]` with kind node, way or relation. -/
theorem parseElement_shape {s : List Char} {x : BitVec 64} (h : parseElement s = some x) :
    ∃ (k : Kind) (rest : List Char), k.isElement ∧ s = k.name.toList ++ '/' :: rest ∧ IsRefVersion rest := by
  obtain ⟨kk, rest, hs, h⟩ := kind_rest_of_some h
  cases hp : parseRefVersion rest with
  | none => simp [hp] at h
  | some p =>
    simp only [hp] at h
    cases hf : Type_FeatureID (String.ofList kk) (BitVec.ofInt 64 p.1) with
    | none => simp [hf] at h
    | some fid =>
      obtain ⟨k, hke, hk⟩ := featureID_known hf
      exact ⟨k, rest, hke, by rw [hs, ofList_eq_name hk], parseRefVersion_shape hp⟩

/-- accepted text yields exactly the packed id of its parts (no "wrong id") -/
theorem parseFeature_value {s : List Char} {x : BitVec 64} (h : parseFeature s = some x) :
    ∃ (k : Kind) (rest : List Char) (ref : Int), k.isElement ∧ s = k.name.toList ++ '/' :: rest ∧
      parseInt64 rest = some ref ∧ x = layout k (BitVec.ofInt 64 ref) 0#64 := by
  obtain ⟨kk, rest, hs, h⟩ := kind_rest_of_some h
  cases hp : parseInt64 rest with
  | none => simp [hp] at h
  | some ref =>
    simp only [hp] at h
    obtain ⟨k, hke, hk⟩ := featureID_known h
    refine ⟨k, rest, ref, hke, by rw [hs, ofList_eq_name hk], hp, ?_⟩
    rw [hk, type_featureID] at h
    simp only [hke, if_true, Option.some.injEq] at h
    exact h.symm

/-- `ParseFeatureID` succeeds only on `kind/ref` with kind node, way or relation. -/
theorem parseFeature_shape {s : List Char} {x : BitVec 64} (h : parseFeature s = some x) :
    ∃ (k : Kind) (rest : List Char), k.isElement ∧ s = k.name.toList ++ '/' :: rest ∧ IsNumeral rest := by
  obtain ⟨k, rest, ref, hk, hs, hp, _⟩ := parseFeature_value h
  exact ⟨k, rest, hk, hs, parseInt64_numeral (hp ▸ Option.some_ne_none ref)⟩

example : parseObject "node/5:3".toList = some (layout .node 5#64 3#64) := by decide
example : parseObject "user/7:-".toList = some (layout .user 7#64 0#64) := by decide
example : parseElement "changeset/5:3".toList = none := by decide
example : parseObject "node/5:3:1".toList = none := by decide
example : parseObject "nodes/5".toList = none := by decide
example : showElement (layout .way 12#64 0#64) = some "way/12:-".toList := by decide

end OsmVerif.Props.C10Text
