import OsmVerif.Lemmas.Search19
import OsmVerif.Lemmas.Search19b
import OsmVerif.Model.Replication
/-!
# C19 — replication state lookup by time returns the first state at or after t

Theorems about `Model.Search` (hand-written model of replication/search.go after the repair of
the neighbour-probe loops, tied to the code by comparing the exact sequence of requested ids).
`av : seq → Option ts` is the directory (`none` = 404).
-/
namespace OsmVerif.Props.C19
open OsmVerif.Model.Search

def IsFirstAtOrAfter (av : Avail) (t : Int) (n : Nat) : Prop :=
  (∃ c, av n = some c ∧ t ≤ c) ∧ ∀ j d, av j = some d → t ≤ d → n ≤ j

/-- what `findBound` guarantees for its result, for every availability pattern -/
structure BoundOk (av : Avail) (t : Int) (lo hi : Nat) : Prop where
  lo_av : ∃ a, av lo = some a
  hi_av : ∃ b, av hi = some b ∧ t ≤ b
  le : lo ≤ hi

theorem findBound_ok (av : Avail) (t : Int) :
    ∀ f l u, l < u → (∃ b, av u = some b ∧ t ≤ b) →
      BoundOk av t (findBound av t f l u).1 (findBound av t f l u).2 := by
  intro f l u hlu hu
  obtain ⟨hav, h3, _⟩ := findBoundL_ok av t f l u hlu
  obtain ⟨h1, h2⟩ := hav hu
  rw [findBoundL_fst] at h1 h2 h3
  exact ⟨h1, h2, h3⟩

theorem findInRangeL_fst (av : Avail) (t : Int) (f lo hi : Nat) :
    (findInRangeL av t f lo hi).1 = findInRange av t f lo hi := by
  fun_induction findInRange av t f lo hi with
  | case1 => rfl
  | case2 f lo hi hgap hp =>
    rw [findInRangeL_empty hgap (Prod.ext ((pickSplitL_fst av lo hi).trans hp) rfl)]
  | case3 f lo hi hgap s ts hp hlt ih =>
    rw [findInRangeL_upper hgap (Prod.ext ((pickSplitL_fst av lo hi).trans hp) rfl) hlt]
    exact ih
  | case4 f lo hi hgap s ts hp hge ih =>
    rw [findInRangeL_lower hgap (Prod.ext ((pickSplitL_fst av lo hi).trans hp) rfl) hge]
    exact ih
  | case5 f lo hi hadj => rw [findInRangeL_stop (.inr (Nat.le_of_not_lt hadj))]

/-- **later than every state: the newest state, after a single request** -/
theorem search_future_returns_current (av : Avail) (cur min : Nat) (t : Int) (c : Int)
    (hc : av cur = some c) (ht : t > c) :
    search av cur min t = cur ∧ searchL av cur min t = (cur, [0]) := by
  simp [search, searchL, hc, ht]

theorem first_of_gap (av : Avail) (hm : Mono av) (t : Int) (lo hi : Nat) (a b : Int)
    (ha : av lo = some a) (hb : av hi = some b) (hat : a < t) (htb : t ≤ b)
    (hgap : ∀ j, lo < j → j < hi → av j = none) : IsFirstAtOrAfter av t hi := by
  refine ⟨⟨b, hb, htb⟩, fun j d hj hd => Nat.le_of_not_lt fun hjhi => ?_⟩
  rcases Nat.lt_trichotomy j lo with h | h | h
  · have := hm j lo d a h hj ha; omega
  · rw [h, ha] at hj; cases hj; omega
  · rw [hgap j h hjhi] at hj; cases hj

/-- For EVERY availability pattern with increasing timestamps: the repaired search
returns the first available state at or after `t` (invariant: `lo` is before `t`, `hi` is not). -/
theorem findInRange_first (av : Avail) (t : Int) (hm : Mono av) :
    ∀ f lo hi a b, hi ≤ lo + f + 1 → av lo = some a → av hi = some b → a < t → t ≤ b →
      IsFirstAtOrAfter av t (findInRange av t f lo hi) := by
  intro f lo hi a b hf ha hb hat htb
  rw [← findInRangeL_fst]
  induction f, lo, hi using findInRangeL_induct (av := av) (t := t) generalizing a b with
  | stop f lo hi _ heq =>
    rw [heq]
    exact first_of_gap av hm t lo hi a b ha hb hat htb (fun j h1 h2 => by omega)
  | empty f lo hi l _ hall _ heq =>
    rw [heq]
    exact first_of_gap av hm t lo hi a b ha hb hat htb hall
  | upper f lo hi s ts l hs hlt' heq ih =>
    rw [heq]
    exact ih ts b (by have := hs.lo_lt; omega) hs.av_eq hb hlt' htb
  | lower f lo hi s ts l hs hge heq ih =>
    rw [heq]
    exact ih a ts (by have := hs.lt_hi; omega) ha hs.av_eq hat (by omega)

/-- `searchTimestamp` once it has its bounds — the stater's minimum and the current state, or what `findBound`
    found: two available states `lo ≤ hi`, the upper one at or after `t`. It returns `lo` if that is not before
    `t`, else the result of `findInRange`: at or after `t` either way, and the first such state FROM THE LOWER
    BOUND ON. Both lookup theorems below are this, with their own reason why no state at or after `t` lies under
    the lower bound: nothing is available there (minimum available), or the lower bound itself is not after `t`
    (minimum missing). -/
theorem first_from_bounds (av : Avail) (hm : Mono av) (cur min : Nat) (t : Int) (c : Int) (hc : av cur = some c)
    (ht : t ≤ c) {lo hi : Nat}
    (hbd : (match av min with
      | some _ => (min, cur)
      | none => findBound av t (cur * cur + cur + 2) 1 cur) = (lo, hi))
    (a b : Int) (ha : av lo = some a) (hb : av hi = some b) (htb : t ≤ b) :
    (∃ r, av (search av cur min t) = some r ∧ t ≤ r) ∧
    ∀ j d, av j = some d → t ≤ d → lo ≤ j → search av cur min t ≤ j := by
  -- the paths through `searchTimestamp`; `hc`, `ht` and `ha` exclude the first three
  fun_cases search av cur min t with
  | case1 hnone => rw [hc] at hnone; cases hnone
  | case2 cts hcts hgt => rw [hc] at hcts; cases hcts; exact absurd ht (Int.not_le.mpr hgt)
  | case3 cts hcts hnt lo' hi' hbd' hnone => cases hbd.symm.trans hbd'; rw [ha] at hnone; cases hnone
  | case4 cts hcts hnt lo' hi' hbd' lts hlo hlts =>
    cases hbd.symm.trans hbd'
    exact ⟨⟨lts, hlo, by omega⟩, fun j d _ _ h => h⟩
  | case5 cts hcts hnt lo' hi' hbd' lts hlo hlts =>
    cases hbd.symm.trans hbd'
    rw [ha] at hlo
    cases hlo
    have hfirst := findInRange_first av t hm (hi - lo) lo hi a b (by omega) ha hb (Decidable.not_not.mp hlts) htb
    exact ⟨hfirst.1, fun j d hj hd _ => hfirst.2 j d hj hd⟩

/-- **minimum state available** (minute/hour/day replication on planet): for every pattern of
    missing files above it, every increasing timestamp assignment and every `t` not later than the
    current state, the search returns the first available state written at or after `t`. -/
theorem search_returns_first_at_or_after (av : Avail) (hm : Mono av) (cur min : Nat) (t : Int)
    (c m : Int) (hc : av cur = some c) (hmin : av min = some m) (hlt : min ≤ cur) (ht : t ≤ c)
    (hlow : ∀ j d, av j = some d → min ≤ j) :
    IsFirstAtOrAfter av t (search av cur min t) := by
  have h := first_from_bounds av hm cur min t c hc ht (lo := min) (hi := cur) (by rw [hmin]) m c hmin hc ht
  exact ⟨h.1, fun j d hj hd => h.2 j d hj hd (hlow j d hj)⟩

/-- **minimum state missing** (changeset replication; mirrors that pruned old files): the answer is
    always an available state written at or after `t`, and it is the *first* such state whenever the
    geometric ascent of `findBound` ends on a state `b.1` that is not after `t`; without that condition nothing more
    is claimed. (The remaining case — the ascent gives up on a state after `t` although earlier files exist — is the
    recorded known finding C19/findBound-sparse-low-end.) -/
theorem search_returns_first_partial (av : Avail) (hm : Mono av) (cur min : Nat) (t : Int)
    (c : Int) (hc : av cur = some c) (hmin : av min = none) (h1 : 1 < cur) (ht : t ≤ c) :
    let b := findBound av t (cur * cur + cur + 2) 1 cur
    (∃ r, av (search av cur min t) = some r ∧ t ≤ r) ∧
    ((∃ a, av b.1 = some a ∧ a ≤ t) → IsFirstAtOrAfter av t (search av cur min t)) := by
  intro b
  have hb : BoundOk av t b.1 b.2 := findBound_ok av t (cur * cur + cur + 2) 1 cur h1 ⟨c, hc, ht⟩
  obtain ⟨a, ha⟩ := hb.lo_av
  obtain ⟨bb, hbb, hbt⟩ := hb.hi_av
  have h := first_from_bounds av hm cur min t c hc ht (lo := b.1) (hi := b.2) (by rw [hmin]) a bb ha hbb hbt
  refine ⟨h.1, fun ⟨a', ha', hat⟩ => ⟨h.1, fun j d hj hd => h.2 j d hj hd (Nat.le_of_not_lt fun hjl => ?_)⟩⟩
  -- a state below the lower bound is older than it, hence before `t`
  rw [ha] at ha'; cases ha'
  have := hm j b.1 d a hjl hj ha
  omega

/-- **termination with an explicit bound** (every availability pattern): the binary search over
    `(lo, hi)` issues at most `(hi-lo)²` requests; with the fuel `hi - lo` used by `search` it never
    runs out of fuel before the interval is closed (`findInRange_fuel_stable`, C19b). -/
theorem findInRangeL_requests (av : Avail) (t : Int) :
    ∀ f lo hi, hi ≤ lo + f → (findInRangeL av t f lo hi).2.length ≤ (hi - lo) * (hi - lo) := by
  intro f lo hi _
  -- the sum-form bound is at most `4 (w - 1)` for the width `w`, and `4 (j + 1) ≤ (j + 2)²`
  have h := findInRangeL_sum av t f lo hi
  have h1 := clog_le_pred (hi - lo)
  have h2 : missing av lo hi ≤ hi - lo - 1 := missingFrom_le av _ _
  generalize hi - lo = w at h h1 h2 ⊢
  rcases w with _ | _ | j
  · omega
  · omega
  · rw [Nat.succ_mul_succ (j + 1) (j + 1), Nat.succ_mul_succ j j]
    omega

/-- a directory without gaps is searched with one request per halving: for a range of width
    `w = hi - lo ≥ 2` the number of requests `k` satisfies `2^k ≤ 2(w-1)`, i.e. `k ≤ log₂(w-1) + 1` -/
theorem findInRangeL_requests_gapfree (av : Avail) (t : Int)
    (hfull : ∀ n, ∃ ts, av n = some ts) :
    ∀ f lo hi, (hi - lo ≤ 1 → (findInRangeL av t f lo hi).2.length = 0) ∧
      (2 ≤ hi - lo → 2 ^ (findInRangeL av t f lo hi).2.length ≤ 2 * (hi - lo - 1)) := by
  intro f lo hi
  -- the sum-form bound with no missing files: at most `clog (hi - lo)` requests
  have h := findInRangeL_sum av t f lo hi
  rw [missing, missingFrom_full av hfull, clog] at h
  constructor
  · intro hw; rw [if_pos hw] at h; omega
  · intro hw
    rw [if_neg (by omega)] at h
    calc 2 ^ (findInRangeL av t f lo hi).2.length
        ≤ 2 ^ ((hi - lo - 1).log2 + 1) := Nat.pow_le_pow_right (by decide) (by omega)
      _ = 2 * 2 ^ (hi - lo - 1).log2 := by rw [Nat.pow_succ, Nat.mul_comm]
      _ ≤ 2 * (hi - lo - 1) := Nat.mul_le_mul_left 2 (Nat.log2_self_le (by omega))

/-- **requests of the binary search = O(log range) + O(missing files), as a SUM** — for every availability
    pattern (no monotonicity needed), every query time and any fuel: at most `⌈log₂(hi-lo)⌉ + 3·(missing files
    strictly between the bounds) + 1` requests. Each missing file is stepped over at most three times; the
    argument is at `findInRangeL_sum_bound` (`Lemmas/Search19b.lean`). -/
theorem findInRange_requests_sum (av : Avail) (t : Int) (f lo hi : Nat) (h : lo < hi) :
    (findInRangeL av t f lo hi).2.length ≤ clog (hi - lo) + 3 * missing av lo hi + 1 :=
  Nat.le_succ_of_le (findInRangeL_sum av t f lo hi)

theorem searchL_length_le (av : Avail) (cur min : Nat) (t : Int) {lo hi : Nat} {l1 : List Nat}
    (hb : (match av min with
      | some _ => ((min, cur), [min])
      | none => let (r, lg) := findBoundL av t (cur * cur + cur + 2) 1 cur; (r, min :: lg)) = ((lo, hi), l1)) :
    (searchL av cur min t).2.length ≤ 1 + l1.length + (findInRangeL av t (hi - lo) lo hi).2.length := by
  -- the paths through `searchTimestamp`, with the requests made on each
  fun_cases searchL av cur min t with
  | case1 =>
    -- no current state (an error in the code): the request for it
    exact Nat.le_trans (Nat.le_add_right 1 _) (Nat.le_add_right _ _)
  | case2 =>
    -- `t` is after the current state, which is returned: the request for it
    exact Nat.le_trans (Nat.le_add_right 1 _) (Nat.le_add_right _ _)
  | case3 cts hc hnt lo' hi' l1' hbd =>
    -- no state at the lower bound (an error in the code): the current state and `l1`
    cases hb.symm.trans hbd
    rw [List.length_cons, Nat.add_comm]
    exact Nat.le_add_right _ _
  | case4 cts hc hnt lo' hi' l1' hbd =>
    -- the lower bound is not before `t` and is returned: the current state and `l1`
    cases hb.symm.trans hbd
    rw [List.length_cons, Nat.add_comm]
    exact Nat.le_add_right _ _
  | case5 cts hc hnt lo' hi' l1' hbd lts hlo hlts r l2 hf =>
    -- these and the binary search
    cases hb.symm.trans hbd
    rw [hf]
    simp only [List.length_cons, List.length_append]
    omega

/-- the whole lookup when the stater's minimum state exists (the regular case): the current state, the minimum,
    and the binary search between them -/
theorem search_requests_sum (av : Avail) (cur min : Nat) (t : Int) (m : Int) (hmin : av min = some m) (hlt : min < cur) :
    (searchL av cur min t).2.length ≤ clog (cur - min) + 3 * missing av min cur + 3 := by
  have hs := searchL_length_le av cur min t (lo := min) (hi := cur) (l1 := [min]) (by rw [hmin])
  have := findInRange_requests_sum av t (cur - min) min cur hlt
  rw [List.length_singleton] at hs
  omega

/-- the ascent of `findBound` (minimum state missing): requests that hit an existing file ≤ ⌈log₂ upper⌉ + requests that hit
    a missing file + 2 -/
theorem findBound_requests (av : Avail) (t : Int) (f l u : Nat) (hl : 1 ≤ l) (hlu : l < u) :
    countAv av (findBoundL av t f l u).2 ≤ clog u + countMiss av (findBoundL av t f l u).2 + 2 :=
  findBoundL_requests av t f l u hl hlu 2 (by decide) (fun _ => Nat.le_refl 2)

/-- **the whole lookup with the minimum state missing, as a sum**: 2·⌈log₂ cur⌉ + 2·(requests of the ascent that hit a
    missing file) + 3·(missing files between the bounds it found) + 5 -/
theorem search_requests_sum_min_missing (av : Avail) (cur min : Nat) (t : Int) (hmin : av min = none) (h1 : 1 < cur) :
    (searchL av cur min t).2.length ≤
      2 * clog cur + 2 * countMiss av (findBoundL av t (cur * cur + cur + 2) 1 cur).2 +
        3 * missing av (findBoundL av t (cur * cur + cur + 2) 1 cur).1.1 (findBoundL av t (cur * cur + cur + 2) 1 cur).1.2 + 5 := by
  -- the ascent starts at 1, in the lower half of its range
  have hb := findBoundL_requests av t (cur * cur + cur + 2) 1 cur (Nat.le_refl _) h1 1 (Nat.le_refl _) (fun h => by omega)
  have hr := (findBoundL_ok av t (cur * cur + cur + 2) 1 cur h1).2.2
  rcases hfb : findBoundL av t (cur * cur + cur + 2) 1 cur with ⟨⟨lo, hi⟩, lg⟩
  simp only [hfb] at hb hr
  -- the requests `lg` of the ascent are bounded by `hb` and `hlen`; the bounds it finds lie below `cur` (`hr`)
  have hlen := length_eq_counts av lg
  have hs := searchL_length_le av cur min t (lo := lo) (hi := hi) (l1 := min :: lg) (by rw [hmin, hfb])
  have := findInRangeL_sum av t (hi - lo) lo hi
  have := clog_mono (hi - lo) cur (by omega)
  simp only [List.length_cons] at hs ⊢
  omega

/-- `clog` is the ceiling of the binary logarithm -/
theorem clog_spec (n k : Nat) (hn : 1 ≤ n) : clog n ≤ k ↔ n ≤ 2 ^ k := clog_le_iff n k

/-! ## non-vacuity, and the gap pattern on which the unrepaired loop never returned -/
def exAv : Avail := fun n => if n = 1 then some 10 else if n = 3 then some 30 else if n = 4 then some 40 else none
example : search exAv 4 1 15 = 3 ∧ searchL exAv 4 1 15 = (3, [0, 1, 2, 3, 2]) := by decide
example : search exAv 4 1 5 = 1 := by decide
example : search exAv 4 1 40 = 4 := by decide
example : search exAv 4 1 41 = 4 := by decide
/-- the hypothesis of the theorems holds on this directory -/
example : Mono exAv := by
  -- state `n` was written at time `10 n`
  have key : ∀ n a, exAv n = some a → a = 10 * n := by
    intro n a h
    unfold exAv at h
    split at h
    · cases h; omega
    · split at h
      · cases h; omega
      · split at h
        · cases h; omega
        · cases h
  intro i j a b hij hi hj
  have := key i a hi
  have := key j b hj
  omega
/-- the minimum missing (the stater starts at 2, which is not there): the ascent finds its bounds and the answer is
    the first state at or after t -/
example : exAv 2 = none ∧ search exAv 4 2 15 = 3 ∧ findBound exAv 15 (4 * 4 + 4 + 2) 1 4 = (1, 4) := by decide

section Layout
open OsmVerif.Gen.Replication OsmVerif.Model.Replication

/-- the URL recipes, suffixes, directory names, time formats and the changeset off-by-one rule found in
    the source are the ones of the planet server's layout -/
theorem formats_eq_planet_layout :
    baseSeqURLFormat = "%s/replication/%s/%03d/%03d/%03d" ∧
    baseSeqURLArgs = ["ds.baseURL()", "sn.Dir()", "n / 1000000", "(n % 1000000) / 1000", "n % 1000"] ∧
    baseChangesetURLFormat = "%s/replication/%s/%03d/%03d/%03d" ∧
    baseChangesetURLArgs = ["ds.baseURL()", "cn.Dir()", "n / 1000000", "(n % 1000000) / 1000", "n % 1000"] ∧
    fetchStateLiterals = [".state.txt", "%s/replication/%s/state.txt"] ∧
    fetchChangesetStateLiterals = [".state.txt", "%s/replication/%s/state.yaml", "GET"] ∧
    changeURLLiterals = [".osc.gz"] ∧ changesetReaderLiterals = [".osm.gz", "GET"] ∧
    [dirMinuteSeqNum, dirHourSeqNum, dirDaySeqNum, dirChangesetSeqNum] = ["minute", "hour", "day", "changesets"] ∧
    timeFormats = ["2006-01-02 15:04:05.999999999 Z", "2006-01-02 15:04:05.999999999 +00:00", "2006-01-02T15\\:04\\:05Z"] ∧
    changesetSeqRule = "s.SeqNum++ | s.SeqNum = uint64(n)" ∧
    BaseURL = "https://planet.osm.org" := ⟨rfl, rfl, rfl, rfl, rfl, rfl, rfl, rfl, rfl, rfl, rfl, rfl⟩

/-- which minimum each lookup starts from, as the source has it: 1 for minute, hour and day replication — and the
    day minimum for changesets too (`minChangeset` = 2007990 is declared but `ChangesetStateAt` passes `minDay`), so a
    changeset lookup always finds its minimum missing and goes through `findBound`; the theorems for a missing minimum
    are the ones that apply to it -/
theorem stater_minima :
    [stateAtMinMinute, stateAtMinHour, stateAtMinDay, stateAtMinChangeset] = ["minMinute", "minHour", "minDay", "minDay"] ∧
    [minMinute, minHour, minDay, minChangeset] = [1, 1, 1, 2007990] := ⟨rfl, rfl⟩

/-- `pad3` only puts zeros in front of the decimal digits, so reading the digits back gives `n` -/
theorem ofDigitChars_pad3 (n : Nat) : Nat.ofDigitChars 10 (pad3 n) 0 = n := by
  rw [pad3, Nat.ofDigitChars_append, Nat.ofDigitChars_replicate_zero, Nat.mul_zero,
    Nat.ofDigitChars_toDigits (by decide) (by decide)]

theorem pad3_inj {a b : Nat} (h : pad3 a = pad3 b) : a = b := by
  rw [← ofDigitChars_pad3 a, h, ofDigitChars_pad3]

theorem length_pad3 {n : Nat} (h : n < 1000) : (pad3 n).length = 3 := by
  have := (Nat.length_toDigits_le_iff (b := 10) (k := 3) (by decide) (by decide)).mpr h
  simp only [pad3, List.length_append, List.length_replicate]
  omega

/-- **three zero-padded levels**, and distinct sequence numbers below 10⁹ get distinct paths -/
theorem seqPath_layout (dir : String) (n : Nat) (hn : n < 1000000000) :
    seqPath dir n = ("/replication/".toList ++ dir.toList) ++ ('/' :: (pad3 (n / 1000000) ++ ('/' :: (pad3 (n % 1000000 / 1000) ++ ('/' :: pad3 (n % 1000)))))) ∧
    (pad3 (n / 1000000)).length = 3 ∧ (pad3 (n % 1000000 / 1000)).length = 3 ∧ (pad3 (n % 1000)).length = 3 :=
  ⟨rfl, length_pad3 (by omega), length_pad3 (by omega), length_pad3 (by omega)⟩

theorem seqPath_injective (dir : String) (n m : Nat) (hn : n < 1000000000) (hm : m < 1000000000)
    (h : seqPath dir n = seqPath dir m) : n = m := by
  have h1 := List.cons.inj (List.append_cancel_left h)
  -- the first two levels have the same length, so the three levels can be compared one by one
  have h2 := List.append_inj h1.2 (by rw [length_pad3 (by omega), length_pad3 (by omega)])
  have h3 := List.append_inj (List.cons.inj h2.2).2 (by rw [length_pad3 (by omega), length_pad3 (by omega)])
  have ea := pad3_inj h2.1
  have eb := pad3_inj h3.1
  have ec := pad3_inj (List.cons.inj h3.2).2
  omega

/-- the changeset state's off-by-one sequence: the current state is one more than the file says,
    a numbered state is the number it was requested under -/
theorem changeset_seq_off_by_one (n s : Nat) :
    changesetSeq 0 s = s + 1 ∧ (n ≠ 0 → changesetSeq n s = n) :=
  ⟨if_pos rfl, fun h => if_neg h⟩

example : String.ofList (seqPath "minute" 2010580) = "/replication/minute/002/010/580" := by decide +kernel
example : String.ofList (statePath "day" 0) = "/replication/day/state.txt" := by decide +kernel
end Layout

end OsmVerif.Props.C19
