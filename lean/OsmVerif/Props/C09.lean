import OsmVerif.Model.PbfOffsets
import OsmVerif.Lemmas.PbfScan
/-!
# C09 — resuming a PBF scan at the reported byte offset loses no element

The bookkeeping statements of `decoder.Start`, `readFileBlock` and `Next` are read from the source
(`Model.PbfOffsets.rules`) and interpreted, for every stream: a header block or none, then any data blocks of any
sizes, some of them yielding no object. The offset reported with an object is the byte offset at which its block
begins, and a scan started there yields the rest of the objects beginning with the first object of that block.
-/
namespace OsmVerif.Props.C09
open OsmVerif.Gen.Pbf OsmVerif.Model.PbfOffsets

/-- the offset bookkeeping as `specRules` writes it out; `rules_eq` shows that it is what is read from the source -/
abbrev R : Rules := specRules

theorem rules_eq : rules = R := by
  rw [rules]
  simp only [OsmVerif.Model.PbfScan.hasPrefix_eq_startsWith]
  decide +kernel

/-- the two public accessors read the cursor fields the rules speak of: `FullyScannedBytes` the current offset,
    `PreviousFullyScannedBytes` the previous one -/
theorem accessors_pinned :
    fullyScannedBytesBody = ["return atomic.LoadInt64(&s.decoder.cOffset)"] ∧
    previousFullyScannedBytesBody = ["return atomic.LoadInt64(&s.decoder.pOffset)"] := ⟨rfl, rfl⟩

variable {α : Type}

/-- every block is accounted with its full length: 4-byte size prefix, BlobHeader, Blob -/
theorem accounted_eq_size (f : Frame α) : accounted R f = some f.size := by
  simp [accounted, R, specRules, Frame.size]

/-- the blocks with the byte offsets at which they begin, from position `pos` -/
def layout (pos : Nat) : List (Frame α) → List (Nat × List α)
  | [] => []
  | f :: rest => (pos, f.objs) :: layout (pos + f.size) rest

abbrev blockStart (pos : Nat) (bs : List (Frame α)) (i : Nat) : Nat := pos + ((bs.take i).map (·.size)).sum

theorem feed_go_eq (hdr : Option (Frame α)) (pos : Nat) (first : Bool) (bs : List (Frame α))
    (h : first = true → hdr.isNone = true → pos = 0) : feed.go R hdr pos first bs = some (layout pos bs) := by
  induction bs generalizing pos first with
  | nil => rfl
  | cons f rest ih =>
    simp only [feed.go, accounted_eq_size, layout, ih (pos + f.size) false (by simp), Option.map_some]
    -- the offset sent with the block is `pos` on either path: the first block of a stream without header is sent
    -- with 0, and there `pos = 0`
    by_cases c : first = true ∧ hdr.isNone = true
    · rw [if_pos c, h c.1 c.2]; rfl
    · rw [if_neg c]; rfl

/-- **what the consumer receives**: every data block with the byte offset at which it begins — counted from
    where the reader started, the header block (if the stream has one) included -/
theorem feed_eq (hdr : Option (Frame α)) (bs : List (Frame α)) :
    feed R hdr bs = some (layout (match hdr with | some h => h.size | none => 0) bs) := by
  have hp : R.pairCarriesOffset = true := rfl
  unfold feed
  simp only [hp, not_true_eq_false, if_false]
  cases hdr with
  | none => simp only [Option.bind_some]; exact feed_go_eq none 0 true bs (by simp)
  | some h => simp only [accounted_eq_size, Option.bind_some]; exact feed_go_eq (some h) h.size true bs (by simp)

/-- what is reported after each object: its block's offset, and the offset current before that block was taken -/
def expected (c : Nat) : List (Nat × List α) → List (α × Nat × Nat)
  | [] => []
  | (off, objs) :: q => objs.map (fun x => (x, off, c)) ++ expected off q

def total (q : List (Nat × List α)) : Nat := (q.map (·.2.length)).sum

theorem total_cons (off : Nat) (objs : List α) (q : List (Nat × List α)) :
    total ((off, objs) :: q) = objs.length + total q := by simp [total]

theorem shift_eq (p c off : Nat) : applyShift R.shift p c off = some (c, off) := by simp [applyShift, R, specRules]

theorem next_cur (sh : List String) (p c : Nat) (x : α) (rest : List α) (q : List (Nat × List α)) :
    Cursor.next sh { p := p, c := c, cur := x :: rest, queue := q } =
      some (x, { p := p, c := c, cur := rest, queue := q }) := rfl

theorem next_end (p c : Nat) : Cursor.next R.shift ({ p := p, c := c, cur := [], queue := [] } : Cursor α) = none := rfl

theorem next_take (p c off : Nat) (x : α) (rest : List α) (q : List (Nat × List α)) :
    Cursor.next R.shift { p := p, c := c, cur := [], queue := (off, x :: rest) :: q } =
      some (x, { p := c, c := off, cur := rest, queue := q }) := by
  simp [Cursor.next, Cursor.next.take, shift_eq]

theorem next_skip_empty (p c off : Nat) (q : List (Nat × List α)) :
    Cursor.next R.shift ({ p := p, c := c, cur := [], queue := (off, []) :: q } : Cursor α) =
      Cursor.next R.shift ({ p := c, c := off, cur := [], queue := q } : Cursor α) := by
  simp [Cursor.next, Cursor.next.take, shift_eq]

theorem trace_cur (fuel p c : Nat) (cur : List α) (q : List (Nat × List α)) :
    trace R.shift (cur.length + fuel) { p := p, c := c, cur := cur, queue := q } =
      cur.map (fun x => (x, c, p)) ++ trace R.shift fuel { p := p, c := c, cur := [], queue := q } := by
  induction cur with
  | nil => simp
  | cons x rest ih =>
    rw [List.length_cons, Nat.add_right_comm, trace, next_cur]
    simp only [List.map_cons, List.cons_append, ih]

theorem trace_empty (fuel p c : Nat) (q : List (Nat × List α)) (hf : total q ≤ fuel) :
    trace R.shift (fuel + 1) ({ p := p, c := c, cur := [], queue := q } : Cursor α) = expected c q := by
  induction q generalizing fuel p c with
  | nil => rw [trace, next_end]; rfl
  | cons b q ih =>
    obtain ⟨off, objs⟩ := b
    rw [total_cons] at hf
    cases objs with
    | nil =>
      -- an empty block is taken within the same call of `Next`
      have := ih fuel c off (by simpa using hf)
      rw [trace] at this
      rw [trace, next_skip_empty]
      exact this
    | cons x rest =>
      rw [List.length_cons] at hf
      obtain ⟨m, rfl⟩ : ∃ m, fuel = rest.length + (m + 1) := ⟨fuel - rest.length - 1, by omega⟩
      rw [trace, next_take]
      simp only [expected, List.map_cons, List.cons_append]
      rw [trace_cur, ih m c off (by omega)]

theorem layout_objs (pos : Nat) (bs : List (Frame α)) : (layout pos bs).map (·.2) = bs.map (·.objs) := by
  induction bs generalizing pos with
  | nil => rfl
  | cons f rest ih => simp [layout, ih]

theorem total_layout (pos : Nat) (bs : List (Frame α)) : total (layout pos bs) = (bs.map (·.objs.length)).sum := by
  have h := congrArg (List.map List.length) (layout_objs pos bs)
  rw [List.map_map, List.map_map] at h
  exact congrArg List.sum h

/-- **the reported offsets, for every stream**: after each returned object the current offset is the byte
    offset of the block that holds it, the previous offset the one that was current before that block was
    taken (0 at the start) — empty blocks are taken and shift the offsets like any other -/
theorem scanTrace_eq (hdr : Option (Frame α)) (bs : List (Frame α)) :
    scanTrace R hdr bs = some (expected 0 (layout (match hdr with | some h => h.size | none => 0) bs)) := by
  unfold scanTrace
  rw [feed_eq]
  exact congrArg some (trace_empty _ 0 0 _ (Nat.le_of_eq (total_layout _ bs)))

theorem expected_objs (c : Nat) (q : List (Nat × List α)) : (expected c q).map (·.1) = (q.map (·.2)).flatten := by
  induction q generalizing c with
  | nil => rfl
  | cons b q ih => obtain ⟨off, objs⟩ := b; simp [expected, ih, Function.comp_def]

/-- the scan returns the objects of the blocks in file order, whether the stream starts with a header or not -/
theorem scan_objects (hdr : Option (Frame α)) (bs : List (Frame α)) :
    (scanTrace R hdr bs).map (·.map (·.1)) = some (bs.map (·.objs)).flatten := by
  rw [scanTrace_eq]; simp [expected_objs, layout_objs]

theorem layout_getElem? (pos : Nat) (bs : List (Frame α)) (i : Nat) :
    (layout pos bs)[i]? = bs[i]?.map fun f => (blockStart pos bs i, f.objs) := by
  unfold blockStart
  induction bs generalizing pos i with
  | nil => rfl
  | cons f rest ih =>
    cases i with
    | zero => simp [layout]
    | succ n => simp [layout, ih, Nat.add_assoc]

theorem mem_expected (c : Nat) (q : List (Nat × List α)) (i : Nat) (off : Nat) (objs : List α)
    (hq : q[i]? = some (off, objs)) (x : α) (hx : x ∈ objs) : ∃ p, (x, off, p) ∈ expected c q := by
  induction q generalizing c i with
  | nil => simp at hq
  | cons b q ih =>
    obtain ⟨off', objs'⟩ := b
    cases i with
    | zero =>
      cases hq
      exact ⟨c, List.mem_append_left _ (List.mem_map_of_mem hx)⟩
    | succ n =>
      obtain ⟨p, hp⟩ := ih off' n hq
      exact ⟨p, List.mem_append_right _ hp⟩

/-- an object reported with current offset `c` lies in a block that begins at byte `c` of the stream: the
    blocks before it hold exactly the objects returned before that block's first object -/
theorem reported_offset_is_block_start (hdr : Option (Frame α)) (bs : List (Frame α)) (i : Nat) (hi : i < bs.length) :
    let s := match hdr with | some h => h.size | none => 0
    let start := s + ((bs.take i).map (·.size)).sum
    ∀ x ∈ bs[i].objs, ∃ p, (x, start, p) ∈ expected 0 (layout s bs) := by
  intro s start x hx
  exact mem_expected 0 _ i start _ (by rw [layout_getElem?, List.getElem?_eq_getElem hi]; rfl) x hx

/-- **resuming loses nothing**: a new scan over the stream from block `i` on — its first block a data block,
    no header — yields exactly the objects of blocks `i, i+1, …`; together with the objects of the blocks
    before `i` that is the whole scan, so stopping after any object of block `i` and resuming at the
    reported offset re-reads that block from its first object and skips nothing -/
theorem resume_complete (hdr : Option (Frame α)) (bs : List (Frame α)) (i : Nat) :
    (scanTrace R none (bs.drop i)).map (·.map (·.1)) = some ((bs.drop i).map (·.objs)).flatten ∧
    (scanTrace R hdr bs).map (·.map (·.1)) =
      some (((bs.take i).map (·.objs)).flatten ++ ((bs.drop i).map (·.objs)).flatten) := by
  refine ⟨scan_objects none _, ?_⟩
  rw [scan_objects]
  congr 1
  rw [← List.flatten_append, ← List.map_append, List.take_append_drop]

/-- the part of the stream a reader positioned at byte `c` sees: the blocks from the one that begins at `c` on
    (`none` when `c` is not a block boundary) -/
def suffixAt (pos : Nat) : List (Frame α) → Nat → Option (List (Frame α))
  | [], c => if c = pos then some [] else none
  | f :: rest, c => if c = pos then some (f :: rest) else suffixAt (pos + f.size) rest c

theorem suffixAt_start (pos : Nat) (bs : List (Frame α)) : suffixAt pos bs pos = some bs := by
  cases bs <;> simp [suffixAt]

theorem suffixAt_drop (pos : Nat) (bs : List (Frame α)) (i : Nat) (hi : i ≤ bs.length) :
    suffixAt pos bs (blockStart pos bs i) = some (bs.drop i) := by
  unfold blockStart
  induction bs generalizing pos i with
  | nil => simp [suffixAt]
  | cons f rest ih =>
    cases i with
    | zero => simp [suffixAt]
    | succ n =>
      -- a block has at least its 4-byte length prefix, so the next block does not begin at `pos`
      simp only [List.take_succ_cons, List.map_cons, List.sum_cons, List.drop_succ_cons, suffixAt, ← Nat.add_assoc]
      rw [if_neg (by simp only [Frame.size]; omega)]
      exact ih (pos + f.size) n (by simpa using hi)

/-- **stop anywhere, resume at the reported offset**: for every block `i` of every stream, every object of that block
    is reported (by the offset rules read from the source) with the byte offset `c` at which the block begins; the
    bytes of the stream from `c` on are the blocks `i, i+1, …`; and a new scan over them — first block a data block,
    no header — returns exactly the objects of those blocks, the first object of block `i` first -/
theorem resume_at_reported_offset (hdr : Option (Frame α)) (bs : List (Frame α)) (i : Nat) (hi : i < bs.length) :
    let s := match hdr with | some h => h.size | none => 0
    let c := s + ((bs.take i).map (·.size)).sum
    ∃ tr, scanTrace R hdr bs = some tr ∧ (∀ x ∈ bs[i].objs, ∃ p, (x, c, p) ∈ tr) ∧
      suffixAt s bs c = some (bs.drop i) ∧
      (scanTrace R none (bs.drop i)).map (·.map (·.1)) = some ((bs.drop i).map (·.objs)).flatten := by
  intro s c
  refine ⟨_, scanTrace_eq hdr bs, reported_offset_is_block_start hdr bs i hi, suffixAt_drop s bs i (by omega), scan_objects none _⟩

example : scanTrace R (some ⟨10, 20, ([] : List Nat)⟩) [⟨5, 50, [1, 2]⟩, ⟨5, 10, []⟩, ⟨5, 30, [3]⟩] =
    some [(1, 34, 0), (2, 34, 0), (3, 112, 93)] := by decide
example : scanTrace R none [⟨5, 10, ([] : List Nat)⟩, ⟨5, 30, [3]⟩] = some [(3, 19, 0)] := by decide

end OsmVerif.Props.C09
