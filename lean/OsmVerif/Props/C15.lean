import OsmVerif.Lemmas.Updates
/-!
# C15 — applying updates is exact, composable and agrees with geometry-at-time

Theorems about `Model.Updates` (hand-written model of way.go / relation.go / update.go, tied
to the code by the differential stream of `./check C15`). `isRel = false` is a way,
`isRel = true` a relation. The late-update branch of `Way.LineStringAt` is a regenerated fact.
-/
namespace OsmVerif.Props.C15
open OsmVerif.Model.Updates

def applicable (t : Int) (us : List Update) : List Update := us.filter (fun u => !(u.ts > t))
def pendingOf (t : Int) (us : List Update) : List Update := us.filter (fun u => u.ts > t)

def InRange (t : Int) (n : Nat) (us : List Update) : Prop := ∀ u ∈ us, ¬ u.ts > t → u.index < n

/-- **exact**: on success the children are the original ones with exactly the updates stamped at or
    before `t` applied in list order, and **pending** = the later updates in their original order -/
theorem apply_exact (isRel : Bool) (t : Int) (cs : List Child) (us : List Update)
    (h : InRange t cs.length us) :
    applyUpTo isRel t cs us =
      { children := applyAll isRel cs (applicable t us), updates := pendingOf t us, err := none } := by
  unfold applyUpTo
  rw [applyLoop_ok isRel t us cs [] h]
  simp [applicable, pendingOf]

theorem apply_pending (isRel : Bool) (t : Int) (cs : List Child) (us : List Update)
    (h : InRange t cs.length us) :
    (applyUpTo isRel t cs us).updates = us.filter (fun u => u.ts > t) := by
  rw [apply_exact isRel t cs us h]; rfl

/-- child `i` after the call -/
theorem apply_child (isRel : Bool) (t : Int) (cs : List Child) (us : List Update)
    (h : InRange t cs.length us) (i : Nat) :
    (applyUpTo isRel t cs us).children[i]? =
      (cs[i]?).map (fun c => ((applicable t us).filter (fun u => u.index = i)).foldl (Child.apply isRel) c) := by
  rw [apply_exact isRel t cs us h]
  exact applyAll_getElem? isRel cs _ i

/-- children not named by an applicable update are unchanged -/
theorem apply_untouched (isRel : Bool) (t : Int) (cs : List Child) (us : List Update)
    (h : InRange t cs.length us) (i : Nat) (hi : ∀ u ∈ us, ¬ u.ts > t → u.index ≠ i) :
    (applyUpTo isRel t cs us).children[i]? = cs[i]? := by
  have hnone : (applicable t us).filter (fun u => u.index = i) = [] :=
    List.filter_eq_nil_iff.mpr fun u hu => by
      have ⟨hmem, hts⟩ := List.mem_filter.mp hu
      simpa using hi u hmem (by simpa using hts)
  rw [apply_child isRel t cs us h i, hnone]
  exact Option.map_id'

/-- nobody's identity changes (and the list keeps its length) -/
theorem apply_keys (isRel : Bool) (t : Int) (cs : List Child) (us : List Update)
    (h : InRange t cs.length us) :
    (applyUpTo isRel t cs us).children.map (·.key) = cs.map (·.key) := by
  apply List.ext_getElem?
  intro i
  simp only [List.getElem?_map, apply_child isRel t cs us h i]
  cases cs[i]? <;> simp [foldl_apply_key]

/-- the child named by an update takes version, changeset and location from the last applicable update naming it -/
theorem apply_last_wins (isRel : Bool) (c : Child) (A : List Update) (u : Update) :
    let c' := (A ++ [u]).foldl (Child.apply isRel) c
    c'.version = u.version ∧ c'.changeset = u.changeset ∧ c'.lat = u.lat ∧ c'.lon = u.lon := by
  simp [List.foldl_append, Child.apply]

/-- **orientation flip** for reversed way members of relations (and never for ways) -/
theorem reverse_flips (c : Child) (u : Update) :
    (c.apply true u).orientation = (if u.reverse then -c.orientation else c.orientation) ∧
    (c.apply false u).orientation = c.orientation := by
  simp [Child.apply, Int.mul_neg_one]

/-- **index beyond the child list**: the first applicable out-of-range update is reported, nothing
    is written outside the list (length unchanged) and `Updates` is left as it was -/
theorem apply_index_error (isRel : Bool) (t : Int) (cs : List Child) (pre : List Update) (bad : Update)
    (post : List Update) (hpre : InRange t cs.length pre) (hbad : ¬ bad.ts > t) (hidx : bad.index ≥ cs.length) :
    let r := applyUpTo isRel t cs (pre ++ bad :: post)
    r.err = some bad.index ∧ r.updates = pre ++ bad :: post ∧ r.children.length = cs.length ∧
      r.children = applyAll isRel cs (applicable t pre) := by
  unfold applyUpTo
  rw [applyLoop_err isRel t pre bad post cs [] hpre hbad hidx]
  simp [applicable]

def PerChildTimeOrdered (us : List Update) : Prop :=
  ∀ i, (us.filter (fun u => u.index = i)).Pairwise (fun a b => a.ts ≤ b.ts)

theorem pendingOf_pendingOf {t1 t2 : Int} (h12 : t1 ≤ t2) (us : List Update) :
    pendingOf t2 (pendingOf t1 us) = pendingOf t2 us := by
  unfold pendingOf
  rw [List.filter_filter]
  exact List.filter_congr fun u _ => by
    by_cases h : u.ts > t2
    · simp [h, show u.ts > t1 by omega]
    · simp [h]

/-- **composition**: applying up to `t1` and then up to a later `t2` equals applying up to `t2` directly -/
theorem apply_compose (isRel : Bool) (t1 t2 : Int) (h12 : t1 ≤ t2) (cs : List Child) (us : List Update)
    (hr : InRange t2 cs.length us) (ho : PerChildTimeOrdered us) :
    let r1 := applyUpTo isRel t1 cs us
    applyUpTo isRel t2 r1.children r1.updates = applyUpTo isRel t2 cs us := by
  have hr1 : InRange t1 cs.length us := fun u hu h => hr u hu (by omega)
  have hr2 : InRange t2 (applyAll isRel cs (applicable t1 us)).length (pendingOf t1 us) := by
    rw [applyAll_length]
    exact fun u hu => hr u (List.mem_filter.mp hu).1
  intro r1
  rw [show r1 = _ from apply_exact isRel t1 cs us hr1, apply_exact isRel t2 _ _ hr2, apply_exact isRel t2 cs us hr,
    pendingOf_pendingOf h12, ← applyAll_append]
  congr 1
  -- each child sees only its own updates, and those are in time order
  refine applyAll_congr isRel cs fun i => ?_
  rw [List.filter_append]
  simp only [applicable, pendingOf]
  rw [filter_index_comm, filter_index_comm, filter_index_comm, filter_index_comm]
  exact sorted_filter_split _ t1 t2 h12 (ho i)

abbrev pt (c : Child) : Int × Int := (c.lon, c.lat)

def FullyAnnotated (cs : List Child) : Prop := ∀ c ∈ cs, c.version ≠ 0
def AnnotatedUpdates (us : List Update) : Prop := ∀ u ∈ us, u.version ≠ 0

theorem set_map_pt (isRel : Bool) (u : Update) : ∀ (cs : List Child) (i : Nat),
    (cs.map pt).set i (u.lon, u.lat) = (cs.modify i (fun c => c.apply isRel u)).map pt
  | [], _ => by rw [List.modify_nil]; rfl
  | _ :: _, 0 => rfl
  | c :: cs, i + 1 => by
    rw [List.modify_succ_cons, List.map_cons, List.map_cons, List.set_cons_succ, set_map_pt isRel u cs i]

/-- with `continue` at late updates the point list is the point list of the updated children -/
theorem lsLoop_continue (t : Int) (us : List Update) (cs : List Child) :
    lsLoop false t us (cs.map pt) = (applyAll false cs (applicable t us)).map pt := by
  induction us generalizing cs with
  | nil => rfl
  | cons u rest ih =>
    unfold applicable at ih ⊢
    by_cases hu : u.ts > t
    · rw [lsLoop_late hu, List.filter_cons_of_neg (by simpa using hu)]
      exact ih cs
    · rw [lsLoop_applicable hu, List.filter_cons_of_pos (by simpa using hu), set_map_pt false u cs u.index]
      exact ih _

theorem lsLoop_all_late (late_breaks : Bool) (t : Int) (us : List Update) (ls : List (Int × Int))
    (h : ∀ u ∈ us, u.ts > t) : lsLoop late_breaks t us ls = ls := by
  induction us with
  | nil => rfl
  | cons u rest ih =>
    have ⟨hu, hrest⟩ := List.forall_mem_cons.mp h
    rw [lsLoop_late hu, ih hrest, ite_self]

/-- with `break`, a time-sorted update list gives the same points as with `continue` -/
theorem lsLoop_break_sorted (t : Int) (us : List Update) (ls : List (Int × Int))
    (hs : us.Pairwise (fun a b => a.ts ≤ b.ts)) :
    lsLoop true t us ls = lsLoop false t us ls := by
  induction us generalizing ls with
  | nil => rfl
  | cons u rest ih =>
    have hx := List.pairwise_cons.mp hs
    by_cases hu : u.ts > t
    · -- `u` and every later update is late: both loops leave the points as they are
      have hall : ∀ v ∈ u :: rest, v.ts > t :=
        List.forall_mem_cons.mpr ⟨hu, fun v hv => Int.lt_of_lt_of_le hu (hx.1 v hv)⟩
      rw [lsLoop_all_late true t _ ls hall, lsLoop_all_late false t _ ls hall]
    · rw [lsLoop_applicable hu, lsLoop_applicable hu]
      exact ih _ hx.2

theorem applyAll_annotated (cs : List Child) (A : List Update) (hf : FullyAnnotated cs)
    (hu : ∀ u ∈ A, u.version ≠ 0) : FullyAnnotated (applyAll false cs A) := by
  intro c hc
  obtain ⟨i, hi⟩ := List.mem_iff_getElem?.mp hc
  rw [applyAll_getElem?] at hi
  obtain ⟨c0, hc0, rfl⟩ := Option.map_eq_some_iff.mp hi
  -- a child's version stays non-zero along its updates: each writes its own version
  exact List.foldlRecOn (motive := fun (c : Child) => c.version ≠ 0) _ _ (hf c0 (List.mem_of_getElem? hc0))
    fun _ _ u h => hu u (List.mem_filter.mp h).1

theorem not_isZero {c : Child} (h : c.version ≠ 0) : (!c.isZero) = true := by
  simp [Child.isZero, h]

theorem lineString_fully (cs : List Child) (hf : FullyAnnotated cs) : lineString cs = cs.map pt := by
  unfold lineString
  rw [List.filter_eq_self.mpr fun c hc => not_isZero (hf c hc)]

theorem zip_filter_fully (cs : List Child) (ls : List (Int × Int)) (hf : FullyAnnotated cs)
    (hl : ls.length = cs.length) :
    ((cs.zip ls).filter (fun p => !p.1.isZero)).map (·.2) = ls := by
  rw [List.filter_eq_self.mpr fun p hp => not_isZero (hf p.1 (List.of_mem_zip hp).1)]
  exact List.map_snd_zip (Nat.le_of_eq hl)

/-- the geometry-at-time query with `continue` in the late-update branch equals the geometry of an
    updated copy, **in whatever order the update list is stored** -/
theorem lineStringAtWith_continue_eq_apply (t : Int) (cs : List Child) (us : List Update)
    (hf : FullyAnnotated cs) (hu : AnnotatedUpdates us) (hr : InRange t cs.length us) :
    lineStringAtWith false t cs us = lineString (applyUpTo false t cs us).children := by
  have hA : ∀ u ∈ applicable t us, u.version ≠ 0 := fun u h => hu u (List.mem_filter.mp h).1
  rw [apply_exact false t cs us hr, lineString_fully _ (applyAll_annotated cs _ hf hA), lineStringAtWith,
    lsLoop_continue]
  exact zip_filter_fully cs _ hf (by simp)

/-- **what holds whichever way the late-update branch reads**: for time-sorted update lists the two agree -/
theorem lineStringAt_eq_apply_partial (t : Int) (cs : List Child) (us : List Update)
    (hf : FullyAnnotated cs) (hu : AnnotatedUpdates us) (hr : InRange t cs.length us)
    (hs : us.Pairwise (fun a b => a.ts ≤ b.ts)) :
    lineStringAt t cs us = lineString (applyUpTo false t cs us).children := by
  rw [← lineStringAtWith_continue_eq_apply t cs us hf hu hr]
  unfold lineStringAt lineStringAtWith
  cases OsmVerif.Gen.Update.lineStringAtLateBreaks
  · rfl
  · rw [lsLoop_break_sorted t us _ hs]

/-- **C15, geometry clause at full strength** (holds of the source after the repair of way.go: the
    late-update branch is `continue`): for fully annotated ways the geometry-at-time-t query equals the
    geometry obtained by applying the updates up to t on a copy, in whatever order the list is stored. -/
theorem lineStringAt_eq_apply (t : Int) (cs : List Child) (us : List Update)
    (hf : FullyAnnotated cs) (hu : AnnotatedUpdates us) (hr : InRange t cs.length us) :
    lineStringAt t cs us = lineString (applyUpTo false t cs us).children := by
  have hgen : OsmVerif.Gen.Update.lineStringAtLateBreaks = false := by decide
  unfold lineStringAt
  rw [hgen]
  exact lineStringAtWith_continue_eq_apply t cs us hf hu hr

/-- regression witness: with `break` an index-sorted list (as annotation produces) gives the wrong
    geometry: node 0 updated at t+20, node 1 at t+5, query at t+7 -/
theorem lineStringAt_break_counterexample :
    let cs : List Child := [⟨1, 1, 1, 10, 10, 0⟩, ⟨2, 1, 1, 20, 20, 0⟩]
    let us : List Update := [⟨0, 2, 120, 2, 11, 11, false⟩, ⟨1, 2, 105, 2, 21, 21, false⟩]
    lineStringAtWith true 107 cs us = [(10, 10), (20, 20)] ∧
    lineString (applyUpTo false 107 cs us).children = [(10, 10), (21, 21)] ∧
    lineStringAtWith false 107 cs us = [(10, 10), (21, 21)] := by decide

example : InRange 5 2 [⟨0, 2, 3, 2, 1, 1, false⟩, ⟨7, 2, 9, 2, 1, 1, false⟩] := by
  unfold InRange
  decide
example : PerChildTimeOrdered [⟨0, 2, 9, 2, 1, 1, false⟩, ⟨1, 2, 3, 2, 1, 1, false⟩, ⟨0, 3, 12, 2, 1, 1, false⟩] := by
  intro i
  match i with
  | 0 => decide
  | 1 => decide
  | i + 2 => simp

/-- the full hypothesis set of the geometry theorems: a fully annotated way, annotated updates, all in range
    (index-sorted with two updates of child 0, one stamped later than t) -/
def exWay : List Child := [⟨100, 1, 10, 5, 6, 0⟩, ⟨101, 1, 10, 7, 8, 0⟩]
def exUps : List Update := [⟨0, 2, 3, 11, 15, 16, false⟩, ⟨0, 3, 9, 12, 25, 26, false⟩, ⟨1, 2, 4, 11, 17, 18, false⟩]
example : FullyAnnotated exWay ∧ AnnotatedUpdates exUps ∧ InRange 5 exWay.length exUps := by
  unfold FullyAnnotated AnnotatedUpdates InRange
  decide
example : lineStringAt 5 exWay exUps = [(16, 15), (18, 17)] ∧ lineString (applyUpTo false 5 exWay exUps).children = [(16, 15), (18, 17)] := by decide
example : (applyUpTo false 5 exWay [⟨0, 2, 3, 11, 15, 16, false⟩, ⟨9, 2, 4, 11, 1, 1, false⟩]).err = some 9 := by decide

end OsmVerif.Props.C15
